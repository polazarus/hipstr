/-
C13 (arithmetic part) — the list model's unbounded `len + n ≤ cap` is what the code checks.

`Model/Vecs.lean` computes on unbounded naturals; the code computes on `usize` (`U = 2^64`).
`capOk_wrapping` / `capOk_checked` (Model/Vecs.lean) are the two ways the code can write the
check; `Gen/CapAsserts.lean` (regenerated from /repo/src/vecs/inline.rs on every run) records
which way each assert is written and where its operand comes from. A source can really have
`usize::MAX` elements (`vec![(); usize::MAX]`), and a check written as a wrapping sum accepts it;
`vecdrive` drives such sources (`append vec *18446744073709551615`).
When `capacity_asserts_cannot_wrap` breaks, `HipVerif.Model.CapAsserts.wrappingSites` names the
sites with file:line.
-/
import HipVerif.Lemmas.Vecs
import HipVerif.Model.CapAsserts

namespace HipVerif.Props.C13
open HipVerif.Vecs
open HipVerif.Model.CapAsserts
open HipVerif.Gen.CapAsserts (capAsserts)

/-- **The fixed check is the model's check for every `n`** — no bound on the source's length is
    needed: `n <= CAP - len` ⇔ `len + n ≤ CAP` whenever `len ≤ CAP`. -/
theorem checked_is_faithful (len n cap : Nat) (h : len ≤ cap) :
    capOk_checked len n cap ↔ len + n ≤ cap := by
  unfold capOk_checked; omega

/-- **The wrapping check is not**: a 7-slot vector holding 2 elements accepts `usize::MAX` more
    (`2 + (2^64 − 1)` wraps to 1). -/
theorem wrapping_is_unfaithful : ¬ (∀ n, capOk_wrapping 2 n 7 → 2 + n ≤ 7) := by
  intro h
  have := h (2 ^ 64 - 1) (by decide)
  omega

example : capOk_wrapping 2 (2 ^ 64 - 1) 7 ∧ ¬ capOk_checked 2 (2 ^ 64 - 1) 7 := by decide

/-- **No capacity assert of `InlineVec` can wrap on caller-controlled input**: every assert whose
    operand is the length of a foreign slice / boxed slice / generic vector, or a number supplied
    by the caller, compares without adding first (`n <= CAP - len` or `x <= CAP`). The asserts
    that do add first (`extend_from_array`, `extend_from_within*`) add a quantity bounded by
    `CAP` or by `self.len()`. -/
theorem capacity_asserts_cannot_wrap :
    ∀ a ∈ capAsserts, a.src.callerControlled = true → a.shape ≠ .wrappingSum := by
  have h : (capAsserts.all assertOk) = true := by decide +kernel
  intro a ha hc hs
  have := (List.all_eq_true.mp h) a ha
  simp [assertOk, hc, hs] at this

/-- **Every capacity assert equals the model's check on all `usize` inputs**: for each assert of
    the table, any `len ≤ CAP ≤ 255` and any operand value its provenance allows (any `usize` for
    foreign lengths and caller numbers), the condition as the code evaluates it holds exactly when
    the list model's unbounded comparison does (`len + n ≤ CAP`; for a `direct` check, `n ≤ CAP`). -/
theorem capacity_asserts_faithful :
    ∀ a ∈ capAsserts, ∀ len n cap, len ≤ cap → cap ≤ 255 → a.src.bound len n cap →
      (a.shape.holds len n cap ↔ if a.shape = .direct then n ≤ cap else len + n ≤ cap) := by
  intro a ha len n cap hl hc hb
  have hw := capacity_asserts_cannot_wrap a ha
  cases hs : a.shape with
  | direct => simp [AssertShape.holds]
  | checkedSub => simp [AssertShape.holds, checked_is_faithful len n cap hl]
  | wrappingSum =>
    have hsmall : len + n < U := by
      cases hsrc : a.src with
      | foreignUnbounded => exact absurd hs (hw (by simp [hsrc, OperandSrc.callerControlled]))
      | scalar => exact absurd hs (hw (by simp [hsrc, OperandSrc.callerControlled]))
      | foreignInline => simp [hsrc, OperandSrc.bound] at hb; simp only [U]; omega
      | constArray => simp [hsrc, OperandSrc.bound] at hb; simp only [U]; omega
      | selfRange => simp [hsrc, OperandSrc.bound] at hb; simp only [U]; omega
    simp [AssertShape.holds, capOk_wrapping_iff len n cap hsmall]

/-- **Counted payloads are ordinary steps**: what the driver answers for `append <kind> *n`,
    `ext_slice *n`, `ext_copy *n`, `ext_iter h *n`, `from iter h *n` (`stepRep`, which never
    builds the `n`-element list when the request is rejected) is `step` on the operation whose
    payload is `n` copies of the value — so sources of `usize::MAX` elements are compared with the
    same model as every other source. -/
theorem counted_payloads_are_steps (s : IV α) (hw : s.xs.length ≤ s.cap) (t : TV α)
    (sh : RepShape) (n : Nat) (v : α) :
    s.stepRep sh n v = s.step (sh.toOp (List.replicate n v)) ∧
    ((∀ k, sh ≠ .fromIter k) → t.stepRep sh n v = t.step (sh.toOp (List.replicate n v))) :=
  ⟨IV.stepRep_eq s hw sh n v, fun h => TV.stepRep_eq t sh n v h⟩

example : (⟨7, [0, 0]⟩ : IV Nat).stepRep .append (2 ^ 64 - 1) 0 = (.panic .capacity, ⟨7, [0, 0]⟩) := by
  decide

/-- The table is inhabited; it contains caller-controlled checks (all of the safe shapes),
    bounded wrapping sums, and nothing to list. -/
example : capAsserts.length ≥ 12 ∧
    (capAsserts.filter fun a => a.src.callerControlled).length ≥ 6 ∧
    (capAsserts.filter fun a => a.shape == .checkedSub).length ≥ 3 ∧
    (capAsserts.filter fun a => a.shape == .wrappingSum).length ≥ 2 ∧
    wrappingSites = [] := by decide +kernel

/-- What the predicate rejects: `assert!(len + other_len <= CAP)` with `other_len` the length of a
    generic vector. -/
example : assertOk ⟨"append", "src/vecs/inline.rs:481", false, .wrappingSum, .foreignUnbounded,
    "other_len", "len + other_len <= CAP"⟩ = false := by decide

end HipVerif.Props.C13
