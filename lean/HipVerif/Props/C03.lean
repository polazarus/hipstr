/-
C03 — Heap discipline: views lie in live memory, blocks are freed exactly once.
The per-step theorems are read off `step_moves`, the walk over all 34 operations (frame of the boxes,
justification of every `freeInner`, buffer ledger); the history theorems off `ledger_run`.
What the model cannot exhibit (real undefined behaviour,
std's own Vec/Box allocation) is monitored on the implementation by coredrive's tracking allocator.
-/
import HipVerif.Audit.Reexport
import HipVerif.Lemmas.CoreHeapFacts
import HipVerif.Lemmas.CoreRun
import HipVerif.Lemmas.CoreLedgerRun

namespace HipVerif.Props.C03
open HipVerif.Core

/-- **View in live block.** In every reachable state every handle is valid: an inline value fits
the inline buffer, a borrowed value lies inside its source, a heap view lies inside the buffer of a
LIVE owner and its data pointer is in that very buffer (`Allocated::is_valid`). -/
theorem view_in_live_block (cfg : Cfg) (srcs : List (List UInt8)) (n : Nat) (ops : List Op)
    (h : Nat) (hd : Handle) (hg : getH (run cfg (init srcs n) ops).1 h = some hd) :
    HandleOk cfg (run cfg (init srcs n) ops).1 hd :=
  (wf_run cfg ops _ (wf_init cfg srcs n)).handles h hd hg

/-- A box is freed only by the step that releases its LAST share (count 0, or the `Unique`
backend), and is dead afterwards. -/
reexport HipVerif.Core.freeInner_sound as free_only_last

/-- One step frees a given box at most once. -/
reexport HipVerif.Core.freeInner_once_per_step as free_once_per_step

/-- A freed box stays freed, and boxes are never forgotten. -/
reexport HipVerif.Core.dead_stays_dead as dead_stays_dead
reexport HipVerif.Core.inners_only_grow as inners_only_grow

/-- **No double free**: over any history a box is freed at most once, and never if it was already
freed. -/
reexport HipVerif.Core.no_double_free as no_double_free

/-- Every buffer free is justified: the freed buffer is not the buffer of any inner that is live
after the step (it belonged to a box that died in this step, or to a temporary `Vec` whose contents
were copied inline). -/
reexport HipVerif.Core.freeBuf_justified as free_buf_justified

/-- **No leak**: once every value has been dropped or converted away, every box has been freed. -/
reexport HipVerif.Core.all_dropped_all_freed as all_dropped_all_freed

/-- Nothing is written outside a buffer's capacity (for buffers owned by a live inner after the
step). -/
reexport HipVerif.Core.writes_within_cap_inner as writes_within_cap_partial

/-- A step changes the bytes of an existing buffer only if the value doing it is the buffer's sole
owner and a target of the operation. -/
reexport HipVerif.Core.write_only_own_inner as write_only_own_inner

/-- buffers of live owners are pairwise distinct and the owner Vec never exceeds its capacity, in
every reachable state -/
theorem buffers_distinct_and_bounded (cfg : Cfg) (srcs : List (List UInt8)) (n : Nat) (ops : List Op) :
    let s := (run cfg (init srcs n) ops).1
    (∀ i j x y, getI s i = some x → getI s j = some y → i ≠ j → x.live = true → y.live = true →
      x.buf ≠ y.buf) ∧
    (∀ i x, getI s i = some x → x.live = true → x.data.length ≤ x.cap) :=
  let w := wf_run cfg ops _ (wf_init cfg srcs n)
  ⟨w.bufDistinct, w.datacap⟩

/-! ### The buffer ledger over whole histories (Lemmas/CoreLedgerRun.lean)

`Ledger` replays the allocation events of a history: `allocBuf`/`importBuf`/the new side of
`growBuf` make a buffer enter, `freeBuf`/`exportBuf`/the old side of `growBuf` make it leave.
`EvGood` is the check each event must pass against the ledger so far, and it is strict: enters only
of never-seen ids with a positive capacity, `freeBuf`/`exportBuf`/the old side of `growBuf` only of a
buffer that is in, a `write b lo hi` only into a buffer that is in with `hi` at most the capacity it
entered with. (A capacity-0 `Vec` owns no allocation: the model emits no event for it.) -/

/-- The ledger invariant holds initially … -/
reexport HipVerif.Core.ledger_init as ledger_init
/-- … is preserved by every operation … -/
reexport HipVerif.Core.ledger_step as ledger_step
/-- … hence by every history. -/
reexport HipVerif.Core.ledger_run as ledger_run

/-- **Buffers balance over every history**: every event is accepted by the ledger; a buffer enters
at most once and leaves at most once; it leaves only after it entered; what is in the ledger at the end is exactly the buffers of the live boxes, each
owned by one box. -/
reexport HipVerif.Core.buffers_balanced as buffers_balanced

/-- **No buffer leak**: when every value is gone, every buffer that entered has left. -/
reexport HipVerif.Core.no_buffer_leak as no_buffer_leak
reexport HipVerif.Core.all_buffers_released as all_buffers_released

/-- **Writes stay within the block's requested size**, for EVERY write event of every history —
including the temporary Vecs of `to_vec` and the copy-out of `take_vec` — the bound being the
capacity with which that very buffer entered. (Supersedes `writes_within_cap_partial`.) -/
reexport HipVerif.Core.writes_within_cap as writes_within_cap

/-- **No write after free**: once a buffer left (freed, exported, reallocated away) no later event
of the history writes to it. -/
reexport HipVerif.Core.no_write_after_leave as no_write_after_leave

/-- prefix-closed balance: on every PREFIX of every history, for every buffer,
#leaves ≤ #enters ≤ 1 -/
reexport HipVerif.Core.enter_leave_pairing as enter_leave_pairing

/-- the buffer of every live box (capacity > 0) in the final state entered exactly once, with that
capacity, and never left -/
reexport HipVerif.Core.live_box_buffer_entered as live_box_buffer_entered

end HipVerif.Props.C03
