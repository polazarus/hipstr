/-
C07 — Representation contract: borrow/inline/heap choice, zero-copy, no-alloc, niche.
Statements and proofs: Lemmas/CoreReprFacts.lean, Lemmas/CoreStep.lean (`norm_step`), Lemmas/Tags.lean.
-/
import HipVerif.Audit.Reexport
import HipVerif.Lemmas.CoreReprFacts
import HipVerif.Lemmas.CoreRun
import HipVerif.Lemmas.Tags

namespace HipVerif.Props.C07
open HipVerif.Core

/-- **Lineage invariant.** In every reachable state, a value that does not descend from an explicit
`with_capacity` request is normalised (inline, borrowed, or longer than the inline capacity):
normalisation is re-established by slice, truncate, pop, mutate-guard drop, shrink_to, … -/
theorem untainted_norm (cfg : Cfg) (srcs : List (List UInt8)) (n : Nat) (ops : List Op) :
    NormOk cfg (run cfg (init srcs n) ops).1 := by
  apply norm_run cfg ops _ (wf_init cfg srcs n)
  intro h hd hg
  rw [getH_init] at hg; cases hg

/-- one step of it -/
theorem norm_preserved (cfg : Cfg) (s : State) (op : Op) (w : Wf cfg s) (n : NormOk cfg s) :
    NormOk cfg (step cfg s op).1 := norm_step cfg s op w n

/-- An owned value of at most `inline_capacity()` bytes that does not descend from `with_capacity`
is stored inline (hence an empty value from new/default/clear is never heap-backed). -/
reexport HipVerif.Core.untainted_small_owned_inline as untainted_small_owned_inline

/-- `new`, `inline`, `try_inline` and small `from(&[u8])` allocate nothing. -/
reexport HipVerif.Core.new_no_alloc as new_no_alloc
reexport HipVerif.Core.inline_no_alloc as inline_no_alloc
reexport HipVerif.Core.fromSlice_small_no_alloc as from_slice_small_no_alloc

/-- Borrowing constructors never copy or allocate and expose the caller's exact memory. -/
reexport HipVerif.Core.borrowed_zero_copy as borrowed_zero_copy

/-- Cloning a heap-backed Arc/Rc value below the ceiling allocates nothing and the clone points into
the same buffer at the same offset; the count goes up by one. -/
reexport HipVerif.Core.clone_shares as clone_shares

/-- Slicing it to more than the inline capacity allocates nothing and points into the same buffer at
the right offset. -/
reexport HipVerif.Core.slice_shares as slice_shares
reexport HipVerif.Core.adopt_shares as adopt_shares

/-- `From<Vec<u8>>` of a long vector takes the caller's buffer: only the box is allocated. -/
reexport HipVerif.Core.fromVec_reuses_buffer as from_vec_reuses_buffer

/-- `into_vec` of a sole owner at offset 0 hands back the very buffer: nothing is copied, only the
box is freed. -/
reexport HipVerif.Core.intoVec_returns_buffer as into_vec_returns_buffer

/-- `capacity() >= len()` always. -/
reexport HipVerif.Core.capacity_ge_len as capacity_ge_len

/-- A `with_capacity(n)` value accepts bytes up to its capacity without its data moving. -/
reexport HipVerif.Core.push_within_capacity_stable as push_within_capacity_stable

/-- **Niche.** The first byte of every representation is non-zero and carries a distinct tag
(constants and encodings GENERATED from src/bytes/raw.rs and src/vecs/inline.rs): this is what
gives `Option<Hip*>` the size of `Hip*`. -/
theorem tag_nonzero :
    (∀ len, len ≤ Gen.Consts.inlineCapacity →
      Tags.inlineByte len ≠ 0 ∧ Tags.tagOf (Tags.inlineByte len) = Gen.Consts.tagInline) ∧
    (Tags.borrowedByte ≠ 0 ∧ Tags.tagOf Tags.borrowedByte = Gen.Consts.tagBorrowed) ∧
    (∀ addr, addr % 4 = 0 → Tags.allocatedWord addr % 256 ≠ 0 ∧
      Tags.tagOf (Tags.allocatedWord addr % 256) = Gen.Consts.tagAllocated) ∧
    Gen.Consts.tagInline ≠ Gen.Consts.tagBorrowed ∧ Gen.Consts.tagInline ≠ Gen.Consts.tagAllocated ∧
    Gen.Consts.tagBorrowed ≠ Gen.Consts.tagAllocated :=
  ⟨fun len h => ⟨(Tags.inline_byte_ok len h).2.1, (Tags.inline_byte_ok len h).2.2.1⟩,
   Tags.borrowed_byte_ok, Tags.allocated_word_ok,
   Tags.tags_distinct_nonzero.2.2.2.1, Tags.tags_distinct_nonzero.2.2.2.2.1,
   Tags.tags_distinct_nonzero.2.2.2.2.2.1⟩

/-- the inline capacity the model uses is the one the source defines (23 on 64-bit) -/
theorem inline_capacity_is_23 : Gen.Consts.inlineCapacity = 23 ∧ Gen.Consts.sizeOfBorrowed = 24 := by
  decide

/-! Non-vacuity: `with_capacity(100)`, `clear`, `push` is a tainted, non-normalised heap value (the
documented exception), while the same history from `from_slice` ends inline. -/

private def c : Cfg := { backend := .arc, ceil := 9, debug := true, icap := 23 }

example : (getH (run c (init [] 2) [.withCapacity 0 100, .clear 0, .pushSlice 0 [1, 2]]).1 0).map
    (fun h => (isHeap h, h.tainted)) = some (true, true) := by decide

example : (getH (run c (init [] 2) [.fromSlice 0 (List.replicate 30 1), .clear 0]).1 0).map
    (fun h => (isInline h, h.tainted)) = some (true, false) := by decide

end HipVerif.Props.C07
