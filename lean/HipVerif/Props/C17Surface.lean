/-
C17 — the crate's SURFACE is pinned: every trait impl (written, derived, macro-generated) and
every provided method it overrides, every `unsafe impl`, the unsafe-hygiene of the exported
macros, and the compile-time guards of the const parameters.

`Gen/PubFns` lists what can be CALLED; a check only fires if some theorem quantifies over the
row. These theorems make a NEW impl, a NEW override of a provided trait method (`ne`, `nth`,
`fold`, `clone_from`, `deserialize_in_place`, `visit_seq` …), a new `unsafe impl`, a macro arm
that expands a caller expression inside `unsafe`, or a weakened const-parameter guard a named
proof break, with `tables_driver` command `rows_c17s` pointing at the `file:line`.
Decided over `Gen/Surface.lean` (regenerated from /repo/src on every run); reviewed inputs and
row predicates in `Model/Surface.lean`.
-/
import HipVerif.Model.Surface
import HipVerif.Lemmas.KeyClasses

namespace HipVerif.Props.C17
open HipVerif.Model.Surface HipVerif.Classes
open HipVerif.Gen.Surface (impls implChunks unsafeImpls exportedMacros constGuards)

/- Evaluated (not kernel-checked) sanity check of the generated numeric keys. -/
#guard surfaceKeysOk

private theorem all_impl_chunks {p : ImplRow → Bool} (h : (implChunks.all fun c => c.all p) = true) :
    ∀ r ∈ impls, p r = true := by
  intro r hr
  obtain ⟨c, hc, hrc⟩ := List.mem_flatten.mp hr
  exact (List.all_eq_true.mp ((List.all_eq_true.mp h) c hc)) r hrc

/-- **No unreviewed override.** Every method defined by any trait impl of the crate (written or
    in a macro arm) is either REQUIRED by its trait or on the reviewed list of overrides, each
    of which names the differential that drives it; and no reviewed override is stale. So
    overriding `PartialEq::ne`, `Iterator::nth`/`fold`, `Clone::clone_from`,
    `Deserialize::deserialize_in_place`, or adding a `visit_seq` to a visitor, breaks this
    theorem until the new method is reviewed and driven. -/
theorem no_unreviewed_overrides :
    (∀ r ∈ impls, ∀ m ∈ r.methods, ∃ req, required r.traitKey = some req ∧
      (m.1 ∈ req ∨ ∃ e ∈ reviewedOverrides, e.1 = r.tyKey ∧ e.2.1 = r.traitKey ∧ e.2.2.1 = m.1)) ∧
    staleOverrides = [] := by
  have h : (implChunks.all fun c => c.all overridesOk) = true := by decide +kernel
  -- reviewed overrides against impl rows, class by class (type key modulo 5)
  have hs : allAny 5 (·.1) (·.tyKey) (fun e r =>
      r.tyKey == e.1 && r.traitKey == e.2.1 && r.methods.any fun m => m.1 == e.2.2.1)
      reviewedOverrides impls = true := by decide +kernel
  refine ⟨fun r hr m hm => ?_, List.filter_eq_nil_iff.mpr fun e he => by
    simp [allAny_sound (by decide) hs e he]⟩
  have hr' := all_impl_chunks h r hr
  unfold overridesOk at hr'
  rw [List.isEmpty_eq_false_iff.mpr (List.ne_nil_of_mem hm), Bool.false_or] at hr'
  cases hreq : required r.traitKey with
  | none => simp [hreq] at hr'
  | some req =>
    refine ⟨req, rfl, ?_⟩
    simp only [hreq, List.all_eq_true, Bool.or_eq_true, List.contains_eq_mem, decide_eq_true_eq,
      List.any_eq_true, Bool.and_eq_true, beq_iff_eq, and_assoc] at hr'
    exact hr' m hm

/-- **Every impl pair is reviewed.** Every (self type, trait) pair that has an impl — written,
    derived, or in a macro arm; macro invocations are pinned per file by their entry count — is
    on the reviewed list with exactly the number of impls the source has, its trait is assigned
    to the property that covers it (C12 comparison views, C16 codecs, C11 wiring, C01 core
    operations, C13–C15 vectors, C05 auto traits …), there is no negative impl, and no reviewed
    pair is stale. A new `impl Extend<u8> for HipByt` or `#[derive(Clone)]` on an iterator
    breaks this theorem. -/
theorem impl_pairs_reviewed :
    (∀ r ∈ impls, r.kind ≠ .negative ∧
      (∃ e ∈ implCounts, e.1 = r.tyKey ∧ e.2.1 = r.traitKey ∧ countOf r.tyKey r.traitKey = e.2.2) ∧
      (∃ e ∈ traitCover, e.1 = r.traitKey)) ∧
    miscountedPairs = [] := by
  -- One evaluation of three facts. The first two are `impls.all pairReviewed` (`Model/Surface`)
  -- taken apart: kind and covered trait of every row as written there, "the row's pair is
  -- pinned" in class-wise form (key: type + trait). The third is the class-wise form of
  -- `miscountedPairs = []`: every pinned pair has its count.
  have h : ((impls.all fun r => r.kind != .negative && traitCover.any fun e => e.1 == r.traitKey) &&
      allAny 13 (fun r => r.tyKey + r.traitKey) (fun e => e.1 + e.2.1)
        (fun r e => e.1 == r.tyKey && e.2.1 == r.traitKey) impls implCounts &&
      ((List.range 13).all fun i => (cls 13 i (fun e => e.1 + e.2.1) implCounts).all fun e =>
        ((cls 13 i (fun r => r.tyKey + r.traitKey) impls).filter fun r =>
          r.tyKey == e.1 && r.traitKey == e.2.1).foldl (fun n r => n + r.entries) 0 == e.2.2)) = true := by
    decide +kernel
  simp only [Bool.and_eq_true] at h
  obtain ⟨⟨hk, hp⟩, hn⟩ := h
  have hcount : ∀ e ∈ implCounts, countOf e.1 e.2.1 = e.2.2 := fun e he => by
    have := all_of_classes (by decide) _ hn e he
    rw [filter_cls fun r _ hr => by
      simp only [Bool.and_eq_true, beq_iff_eq] at hr
      rw [hr.1, hr.2]] at this
    exact eq_of_beq this
  refine ⟨fun r hr => ?_, List.filter_eq_nil_iff.mpr fun e he => by simp [hcount e he]⟩
  have hr' := List.all_eq_true.mp hk r hr
  simp only [Bool.and_eq_true, bne_iff_ne, ne_eq, List.any_eq_true, beq_iff_eq] at hr'
  obtain ⟨e, he, hm⟩ := List.any_eq_true.mp (allAny_sound (by decide) hp r hr)
  simp only [Bool.and_eq_true, beq_iff_eq] at hm
  exact ⟨hr'.1, ⟨e, he, hm.1, hm.2, hm.1 ▸ hm.2 ▸ hcount e he⟩, hr'.2⟩

/-- **`unsafe impl Send/Sync` bound every parameter they expose.** The `unsafe impl`s of the
    crate are exactly the reviewed ones (all `Send`/`Sync`, none specialised), and each bounds
    EVERY type parameter that occurs in a field type of its target — by value, behind a raw
    pointer / `NonNull` / `PhantomData`, or as an argument of the heap header type — by the
    trait it implements. (`unsafe impl<T: Send, P> Send for ThinVec<T, P>` would break both
    halves: it is new, and `P`, stored in the heap header, is unbounded.) -/
theorem unsafe_auto_impls_bound_all_params :
    (∀ u ∈ unsafeImpls, (u.traitKey = key% "Send" ∨ u.traitKey = key% "Sync") ∧
      ∃ ps, u.fieldParams = some ps ∧ ∀ p ∈ ps, (p, u.traitKey) ∈ u.bounds) ∧
    unreviewedUnsafeImpls = [] ∧ staleUnsafeImpls = [] := by
  have h : (unsafeImpls.all unsafeImplOk) = true := by decide +kernel
  refine ⟨fun u hu => ?_, by decide +kernel, by decide +kernel⟩
  have hu' := (List.all_eq_true.mp h) u hu
  simp only [unsafeImplOk, Bool.and_eq_true, Bool.or_eq_true, beq_iff_eq] at hu'
  refine ⟨hu'.1, ?_⟩
  cases hfp : u.fieldParams with
  | none => simp [hfp] at hu'
  | some ps =>
    refine ⟨ps, rfl, fun p hp => ?_⟩
    have := hu'.2
    simp only [hfp, List.all_eq_true, List.contains_eq_mem, decide_eq_true_eq] at this
    exact this p hp

/-- **Exported macros keep caller code out of `unsafe`.** No arm of a `#[macro_export]` macro
    (`thin_vec!`, `inline_vec!`) expands a caller-supplied expression / token tree / block /
    statement inside an `unsafe { }` block of its own (no exemption is needed: no arm contains
    an `unsafe` block at all), so a client under `#![forbid(unsafe_code)]` cannot smuggle an
    unsafe operation through a macro argument. -/
theorem macro_unsafe_hygiene :
    ∀ m ∈ exportedMacros, m.inUnsafe = [] ∨ (m.nameKey, m.arm) ∈ macroUnsafeExempt := by
  have h : (exportedMacros.all macroArmOk) = true := by decide +kernel
  intro m hm
  have := (List.all_eq_true.mp h) m hm
  simpa [macroArmOk, List.isEmpty_iff] using this

/-- **The compile-time guards are exactly the expected ones** — same owner, same context, same
    condition text (so `TAG < (1 << SHIFT)` weakened to `<=` is a break), none missing, none new. -/
theorem const_param_guards_exact : unexpectedGuards = [] ∧ missingGuards = [] := by
  decide +kernel

private theorem pack_table :
    ((List.range 8).all fun s => (List.range (2 ^ s)).all fun t =>
      (List.range (255 >>> s + 1)).all fun l => s == 0 || t == 0 || packOk s t l) = true := by
  decide +kernel

/-- **Why the guards are what they are.** With `0 < SHIFT < 8`, `0 < TAG < 2^SHIFT` and
    `len ≤ 255 >> SHIFT` — exactly the asserts of `TaggedU8::new` — the byte
    `(len << SHIFT) | TAG` fits in a `u8`, is non-zero (`NonZeroU8::new_unchecked` is sound),
    gives back `len` by `>> SHIFT` and `TAG` by masking: length and tag do not overlap. -/
theorem tag_len_disjoint (SHIFT TAG len : Nat)
    (hs0 : 0 < SHIFT) (hs : SHIFT < 8) (ht0 : 0 < TAG) (ht : TAG < 2 ^ SHIFT)
    (hl : len ≤ 255 >>> SHIFT) :
    pack SHIFT TAG len >>> SHIFT = len ∧ pack SHIFT TAG len &&& (2 ^ SHIFT - 1) = TAG ∧
      pack SHIFT TAG len < 256 ∧ 0 < pack SHIFT TAG len := by
  have h := pack_table
  have h1 := (List.all_eq_true.mp h) SHIFT (List.mem_range.mpr hs)
  have h2 := (List.all_eq_true.mp h1) TAG (List.mem_range.mpr ht)
  have h3 := (List.all_eq_true.mp h2) len (List.mem_range.mpr (by omega))
  have hs' : (SHIFT == 0) = false := by simp; omega
  have ht' : (TAG == 0) = false := by simp; omega
  simp only [hs', ht', Bool.false_or, packOk, Bool.and_eq_true, beq_iff_eq, decide_eq_true_eq] at h3
  exact ⟨h3.1.1.1, h3.1.1.2, h3.1.2, h3.2⟩

/-! ### Non-vacuity -/

/-- The tables are inhabited: > 300 impl rows of every kind, 27 reviewed overrides, 255 pinned
    pairs, 6 unsafe impls, 10 exported macro arms, 23 guards. -/
example :
    impls.length > 300 ∧ (impls.filter fun r => r.kind == .derived).length > 40 ∧
    (impls.filter fun r => r.kind == .macroArm).length ≥ 15 ∧
    (impls.filter fun r => r.kind == .macroCall).length ≥ 20 ∧
    reviewedOverrides.length = 27 ∧ implCounts.length = 255 ∧ unsafeImpls.length = 6 ∧
    exportedMacros.length = 10 ∧ constGuards.length = 23 := by decide +kernel

/-- Seeded shapes, all rejected: `PartialEq::ne` overridden; a `nth` on an iterator; a new pair;
    `unsafe impl<T: Send, P> Send for ThinVec<T, P>` (fields mention both parameters);
    the variant with `P: Send` on the `Sync` impl; a macro arm with `$e` inside `unsafe`. -/
example :
    overridesOk ⟨.written, key% "path::HipPath", "path::HipPath", key% "PartialEq", "PartialEq<HipPath<'_, B1>>",
      [(key% "eq", "eq"), (key% "ne", "ne")], 1, false, "x"⟩ = false ∧
    overridesOk ⟨.written, key% "vecs::inline::IntoIter", "", key% "Iterator", "Iterator",
      [(key% "next", "next"), (key% "size_hint", "size_hint"), (key% "nth", "nth")], 1, false, "x"⟩ = false ∧
    pairReviewed ⟨.written, key% "bytes::raw::HipByt", "", key% "Extend", "Extend<u8>",
      [(key% "extend", "extend")], 1, false, "x"⟩ = false ∧
    pairReviewed ⟨.derived, key% "vecs::inline::IntoIter", "", key% "Clone", "Clone", [], 1, false, "x"⟩ = false ∧
    unsafeImplOk ⟨key% "vecs::thin::ThinVec", "", key% "Send", 2, [(0, key% "Send")], some [0, 1], "", "x"⟩ = false ∧
    unsafeImplOk ⟨key% "vecs::thin::ThinVec", "", key% "Sync", 2, [(0, key% "Sync"), (1, key% "Send")],
      some [0, 1], "", "x"⟩ = false ∧
    macroArmOk ⟨key% "thin_vec", "thin_vec", 2, true, [("e", "expr")], ["e"], "x"⟩ = false := by
  decide +kernel

/-- The strictness matters: with `TAG = 2^SHIFT` (what `<=` would admit) the tag collides with
    the lowest length bit — `len = 1`, `SHIFT = 1`, `TAG = 2` reads back as length 1 … and so
    does `len = 0`. -/
example : pack 1 2 0 >>> 1 = 1 ∧ pack 1 2 1 >>> 1 = 1 ∧ pack 1 2 0 &&& (2 ^ 1 - 1) ≠ 2 := by decide

end HipVerif.Props.C17
