/-
  C16 — Serialisation round-trips and never yields invalid values (features serde, borsh, bstr).

  The theorems are about the generated table `Gen/Visitors.lean` (regenerated from the crate's
  source on every run) as interpreted by `Model/Codec.lean`.  They hold for ALL inputs (byte
  strings, tokens) and for any UTF-8 predicate `valid` (instantiate with `HipVerif.Utf8.valid`).
  The `*_table_ok` theorems evaluate the Bool row predicates; the driver command
  `rows` lists the falsifying rows (`file:line`) when one of them breaks.

  Not covered here (trusted, exercised by `serdrive`): how serde_json / serde_test / borsh's
  `&[u8]` reader turn text or bytes into visitor calls and `Read` calls; std's `OsString`
  implementation (a parameter `osDe`).
-/
import HipVerif.Lemmas.Codec
import HipVerif.Model.Utf8

namespace HipVerif.Props.C16
open HipVerif.Codec HipVerif.Gen.Visitors
open HipVerif.Spec.Codec (Token SerOut collect leBytes fromLe)

/-! ## Table obligations (re-checked on every regeneration) -/

/-- The borsh readers have the safe shape: `u32` prefix, per-byte loop, up-front reservation
`min(len, c)` with `c ≤ 4096` for `HipByt`; `HipStr` reads a `HipByt` then validates. -/
theorem borsh_de_table_ok :
    borshDeRows.all (borshDeRowOk capLimit) = true ∧
    (borshShape borshDeRows .byt).isSome = true ∧ (borshShape borshDeRows .str).isSome = true := by
  decide +kernel

/-- Every use of the `reader`/`writer` parameter in the four borsh impls is exact — handed on to
another borsh impl (`u32`/`u8::deserialize_reader`, `[u8]::serialize`, which use
`read_exact`/`write_all`) or a `read_exact`/`write_all` call — never a raw `read`/`write` whose
short count could be mistaken for the end of the data or dropped; and no body contains an
`unsafe` block.  (So a reader delivering the stream in pieces, or a writer accepting it in
pieces, sees exactly what `Vec<u8>`/`String` see.) -/
theorem borsh_io_exact :
    (∀ r ∈ borshDeRows, r.io.all IoCall.exact = true ∧ r.usesUnsafe = false ∧ r.shape ≠ .other) ∧
    (∀ r ∈ borshSerRows, r.io.all IoCall.exact = true ∧ r.usesUnsafe = false ∧ r.shape ≠ .other) := by
  decide +kernel

/-- No `impl Deserialize` overrides `deserialize_in_place` and there is no visitor outside the
four modelled ones: deserialising in place is serde's default `*place = T::deserialize(d)?`, so
it leaves exactly what a fresh `deserialize` returns (never a stale tail of the old value). -/
theorem in_place_default :
    (∀ r ∈ deRows, r.overridesInPlace = false) ∧ auxVisitors = [] := by decide +kernel

/-- Every `borrow_deserialize` (`HipByt`, `HipStr`, and `HipPath` through `HipStr`'s) asks the
format for the BORROWABLE form — `deserialize_bytes` / `deserialize_str` — never for
`deserialize_byte_buf` / `deserialize_string`: with a format that honours the hint (bincode-like)
the latter would hand out a fresh buffer and the "borrowing" constructor would copy. -/
theorem borrow_entry_points_ask_borrowed :
    entryHint deRows .byt .borrowing = some .bytes ∧
    entryHint deRows .str .borrowing = some .str ∧
    entryHint deRows .path .borrowing = some .str := by decide +kernel

/-- The owned `Deserialize` impls ask for a form of their own family (`deserialize_bytes` or
`_byte_buf` for `HipByt`; `deserialize_str` or `_string` for `HipStr`, and `HipPath` through it);
`HipOsStr` leaves the choice to std's `OsString`. -/
theorem owned_entry_points_hint :
    (entryHint deRows .byt .owned = some .bytes ∨ entryHint deRows .byt .owned = some .byteBuf) ∧
    (entryHint deRows .str .owned = some .str ∨ entryHint deRows .str .owned = some .string) ∧
    (entryHint deRows .path .owned = some .str ∨ entryHint deRows .path .owned = some .string) ∧
    entryHint deRows .os .owned = none := by decide +kernel

/-- Every `visit_*` of a visitor that produces a `HipStr` receives a Rust string type, or
validates (`from_utf8`) before constructing, or is an unconditional error; none collects a
sequence of bytes. -/
theorem str_visitors_validate :
    ∀ v ∈ visitors, v.kind = .str → ∀ r ∈ v.methods,
      (r.method.isStr = true ∨ r.body.validates = true ∨ r.body = .error) ∧ r.method ≠ .seq := by
  decide +kernel

/-- Both `BorshSerialize` impls write the slice `[u8]` encoding. -/
theorem borsh_ser_table_ok :
    borshSerRows.all borshSerRowOk = true ∧ borshSerRows.map (·.kind) = [.byt, .str] := by decide +kernel

/-- Every `impl Visitor` passes the row predicate (borrow only in `visit_borrowed_*` of a
borrowed visitor, `HipStr` visitors validate bytes, `visit_seq` capped by 4096, every method
std's visitors answer is answered, borrowed visitors borrow when offered). -/
theorem visitor_table_ok : visitors.all (visitorOk capLimit) = true := by decide +kernel

/-- The four visitors exist, and the owned and borrowed visitor of each type answer every
method with the same shape. -/
theorem pair_table_ok :
    ∃ bo bb so sb,
      findVisitor visitors .bytOwned = some bo ∧ findVisitor visitors .bytBorrowed = some bb ∧
      findVisitor visitors .strOwned = some so ∧ findVisitor visitors .strBorrowed = some sb ∧
      pairOk bo bb = true ∧ pairOk so sb = true :=
  ⟨_, _, _, _, rfl, rfl, rfl, rfl, by decide +kernel, by decide +kernel⟩

/-- Every `Deserialize` impl / `borrow_deserialize` uses the right visitor with the right hint
or delegates (`HipOsStr` → std `OsString`, `HipPath` → `HipStr`), and all seven are present. -/
theorem de_table_ok :
    deRows.all (deRowOk visitors deRows) = true ∧ deTableComplete deRows = true := by decide +kernel

/-- Every `Serialize` impl makes the call its std counterpart makes (`serialize_bytes` for
`HipByt`). -/
theorem ser_table_ok : serRows.all serRowOk = true ∧ serTableComplete serRows = true := by decide +kernel

/-- bstr conversions into `HipStr` are fallible and validate; only `&BStr` is borrowed. -/
theorem bstr_table_ok : bstrRows.all bstrRowOk = true := by decide +kernel

/-- The whole report the driver prints under `rows` is clean. -/
theorem table_ok : tableOk = true := by
  -- the report lists the rows of the tables above, and that the borsh table has two rows
  obtain ⟨bo, bb, so, sb, h1, h2, h3, h4, hp1, hp2⟩ := pair_table_ok
  simp only [tableOk, rowReport, h1, h2, h3, h4, in_place_default.2, List.all_append, List.all_map,
    List.all_cons, List.all_nil, List.map_nil, Function.comp_def, Bool.and_true, hp1, hp2,
    visitor_table_ok, de_table_ok.1, de_table_ok.2, ser_table_ok.1, ser_table_ok.2,
    borsh_de_table_ok.1, borsh_de_table_ok.2.1, borsh_de_table_ok.2.2, borsh_ser_table_ok.1,
    bstr_table_ok]
  rfl

/-- The two readers of the current source in terms of the one reader shape of the table. -/
private theorem reader : ∃ sh, ShapeOk capLimit sh ∧ (∀ input, de input = deShape sh input) ∧
    ∀ valid input, deStr valid input = (deShape sh input).validate valid :=
  (borshDe_table borsh_de_table_ok.1 borsh_de_table_ok.2.1 borsh_de_table_ok.2.2).imp fun _ h =>
    ⟨h.1, fun input => (h.2 (fun _ => true) input).1, fun valid input => (h.2 valid input).2⟩

/-- Writing a value and reading it back (with anything after it) returns the value and leaves
the rest unread: `HipByt::deserialize_reader` inverts `HipByt::serialize`. -/
theorem borsh_roundtrip (b r : List UInt8) (h : b.length < 2 ^ 32) :
    (de (ser b ++ r)).result = .ok (b, r) := by
  obtain ⟨sh, hs, hde, _⟩ := reader
  rw [hde]
  exact deShape_roundtrip hs b r h

/-- Same for `HipStr` (whose content is well-formed UTF-8). -/
theorem borsh_str_roundtrip (valid : List UInt8 → Bool) (s r : List UInt8) (h : s.length < 2 ^ 32)
    (hv : valid s = true) : (deStr valid (ser s ++ r)).result = .ok (s, r) := by
  obtain ⟨sh, hs, _, hstr⟩ := reader
  rw [hstr, DeOut.validate_ok_iff]
  exact ⟨deShape_roundtrip hs s r h, hv⟩

/-- `HipByt`/`HipStr` write exactly borsh's `Vec<u8>`/`[u8]`/`str` encoding (u32 LE length then
the bytes), so each side reads what the other writes. -/
theorem borsh_like_std (b : List UInt8) :
    Spec.Codec.borshVecU8 b = if serFits b then some (ser b) else none := by
  simp [Spec.Codec.borshVecU8, serFits, ser]

/-- What std's `Vec<u8>`/`String` writes is read back as the same bytes. -/
theorem borsh_reads_std (b e r : List UInt8) (h : Spec.Codec.borshVecU8 b = some e) :
    (de (e ++ r)).result = .ok (b, r) := by
  unfold Spec.Codec.borshVecU8 at h
  split at h
  · rename_i hl
    cases h
    exact borsh_roundtrip b r hl
  · cases h

/-- The reader is total and its only failure is `eof`: no panic, overflow or abort outcome
exists on this path (truncated input, oversized prefixes included). -/
theorem borsh_total (input : List UInt8) :
    (∃ x, (de input).result = .ok x) ∨ (de input).result = .error .eof := by
  obtain ⟨sh, hs, hde, _⟩ := reader
  cases h : (de input).result with
  | ok x => exact .inl ⟨x, rfl⟩
  | error e => exact .inr (deShape_err hs input e (hde input ▸ h) ▸ rfl)

/-- The `HipStr` reader is total; it fails with `eof` or `InvalidData` only. -/
theorem borsh_str_total (valid : List UInt8 → Bool) (input : List UInt8) :
    (∃ x, (deStr valid input).result = .ok x) ∨ (deStr valid input).result = .error .eof ∨
      (deStr valid input).result = .error .invalidData := by
  obtain ⟨sh, hs, _, hstr⟩ := reader
  cases h : (deStr valid input).result with
  | ok x => exact .inl ⟨x, rfl⟩
  | error e =>
    rw [hstr] at h
    rcases DeOut.validate_err valid _ e h with h | rfl
    · exact .inr (.inl (deShape_err hs input e h ▸ rfl))
    · exact .inr (.inr rfl)

/-- A `HipStr` read from arbitrary bytes is always well-formed UTF-8. -/
theorem borsh_str_valid (valid : List UInt8 → Bool) (input s rest : List UInt8)
    (h : (deStr valid input).result = .ok (s, rest)) : valid s = true := by
  obtain ⟨sh, _, _, hstr⟩ := reader
  rw [hstr, DeOut.validate_ok_iff] at h
  exact h.2

/-- The reader accepts nothing but encodings: an accepted input is the encoding of the value
returned followed by the unread rest (so the value is never longer than the input). -/
theorem borsh_de_inverse (input c rest : List UInt8) (h : (de input).result = .ok (c, rest)) :
    input = ser c ++ rest := by
  obtain ⟨sh, hs, hde, _⟩ := reader
  exact deShape_inv hs input c rest (hde input ▸ h)

/-- No single allocation request of the reader exceeds `4096 + 2 × (bytes supplied)`: a length
prefix alone cannot make it reserve gigabytes. -/
theorem borsh_alloc_bound (input : List UInt8) :
    (de input).maxRequest ≤ 4096 + 2 * input.length := by
  obtain ⟨sh, hs, hde, _⟩ := reader
  rw [hde]
  exact deShape_bound hs input

/-- Same bound for the `HipStr` reader. -/
theorem borsh_str_alloc_bound (valid : List UInt8 → Bool) (input : List UInt8) :
    (deStr valid input).maxRequest ≤ 4096 + 2 * input.length := by
  obtain ⟨sh, hs, _, hstr⟩ := reader
  rw [hstr, DeOut.maxRequest, DeOut.validate_reqs]
  exact deShape_bound hs input

private theorem vok {v : VisitorRow} (hv : v ∈ visitors) : visitorOk capLimit v = true :=
  List.all_eq_true.mp visitor_table_ok v hv

/-- Whatever a visitor returns has exactly the content of the token it was given; a `HipStr`
is well-formed UTF-8; and the value borrows only if the deserializer handed out `'de` data to a
borrowed visitor. -/
theorem visit_sound (valid : List UInt8 → Bool) (v : VisitorRow) (hv : v ∈ visitors) (t : Token)
    (ht : t.wf valid = true) (c : List UInt8) (br : Bool)
    (h : visit valid v t = .ok (c, br)) :
    t.content = some c ∧ (v.kind = .str → valid c = true) ∧
      (br = true → t.isBorrowed = true ∧ v.borrowsDe = true) :=
  visit_sound_of_ok valid (vok hv) t ht c br h

/-- `borrow_deserialize` borrows whenever the format hands out borrowed data (and, for `HipStr`,
the data is UTF-8). -/
theorem borrow_when_offered (valid : List UInt8 → Bool) (v : VisitorRow) (hv : v ∈ visitors)
    (hb : v.borrowsDe = true) (t : Token) (hbt : t.isBorrowed = true) (ht : t.wf valid = true)
    (p : List UInt8) (hc : t.content = some p) (hp : v.kind = .str → valid p = true) :
    visit valid v t = .ok (p, true) :=
  borrow_when_offered_of_ok valid (vok hv) hb t hbt ht p hc hp

/-- On every token the owned and the borrowed visitor of a type produce the same content or
the same error. -/
theorem owned_eq_borrowed (valid : List UInt8 → Bool) (vo vb : VisitorRow)
    (h : (findVisitor visitors .bytOwned = some vo ∧ findVisitor visitors .bytBorrowed = some vb) ∨
         (findVisitor visitors .strOwned = some vo ∧ findVisitor visitors .strBorrowed = some vb))
    (t : Token) : (visit valid vo t).map Prod.fst = (visit valid vb t).map Prod.fst := by
  obtain ⟨bo, bb, so, sb, h1, h2, h3, h4, hp1, hp2⟩ := pair_table_ok
  rcases h with ⟨ha, hb⟩ | ⟨ha, hb⟩
  · rw [h1] at ha; rw [h2] at hb
    cases ha; cases hb
    exact owned_eq_borrowed_of_ok valid hp1 t
  · rw [h3] at ha; rw [h4] at hb
    cases ha; cases hb
    exact owned_eq_borrowed_of_ok valid hp2 t

/-- Every visitor call std's `String` (and `PathBuf`) visitor accepts — `visit_str`,
`visit_borrowed_str`, `visit_string`, `visit_char`, and UTF-8 `visit_bytes`,
`visit_borrowed_bytes`, `visit_byte_buf` — is accepted by both `HipStr` visitors, with the same
content; every call std's `Vec<u8>` visitor accepts (`visit_seq` of `u8`) is accepted by both
`HipByt` visitors, with the same content. -/
theorem accepts_std_tokens (valid : List UInt8 → Bool) (v : VisitorRow) (hv : v ∈ visitors)
    (t : Token) (ht : t.wf valid = true) (c : List UInt8) :
    (v.kind = .str → Spec.Codec.stringDe valid t = some c → ∃ br, visit valid v t = .ok (c, br)) ∧
    (v.kind = .byt → Spec.Codec.vecU8De t = some c → visit valid v t = .ok (c, false)) :=
  ⟨fun hk h => accepts_string_of_ok valid (vok hv) hk t ht c h,
   fun hk h => accepts_vec_of_ok valid (vok hv) hk t c h⟩

/-- The sequence path of both `HipByt` visitors reserves `min(size_hint, 4096)` up front
(`0` without a hint), whatever the hint claims. -/
theorem seq_cap (v : VisitorRow) (hv : v ∈ visitors) (hk : v.kind = .byt) (hint : Option Nat)
    (xs : List (Option UInt8)) :
    visitReserve v (.seq hint xs) = some (min (hint.getD 0) 4096) := by
  have h : ∀ v ∈ visitors, v.kind = .byt → seqCapOf v = some (some 4096) := by decide +kernel
  simp [visitReserve, h v hv hk]

/-- Every capacity request on the sequence path is at most `max(4096, 2 n + 6)` for `n`
elements actually delivered. -/
theorem seq_alloc_bound (hint : Option Nat) (n : Nat) :
    maxOf (seqRequests (min (hint.getD 0) 4096) n) ≤ max 4096 (2 * n + 6) :=
  Nat.le_trans (seqRequests_bound _ n)
    (Nat.max_le.mpr ⟨Nat.le_trans (Nat.min_le_right _ _) (Nat.le_max_left _ _), Nat.le_max_right _ _⟩)

/-- `HipPath`'s `Deserialize` and `borrow_deserialize` are `HipStr`'s (then a free `From`). -/
theorem path_delegates (valid : List UInt8 → Bool) (osDe : Token → Except Err (List UInt8))
    (e : Entry) (t : Token) :
    deserialize valid osDe .path e t = deserialize valid osDe .str e t := by
  cases e <;> rfl

/-- `HipOsStr`'s `Deserialize` is std's `OsString` implementation (then a free `From`). -/
theorem os_delegates (valid : List UInt8 → Bool) (osDe : Token → Except Err (List UInt8))
    (t : Token) : deserialize valid osDe .os .owned t = (osDe t).map (·, false) := rfl

/-- Each `HipByt`/`HipStr`/`HipPath` entry point is one call of the matching visitor of the
table. -/
theorem entry_is_visit (valid : List UInt8 → Bool) (osDe : Token → Except Err (List UInt8))
    (k : HipKind) (hk : k ≠ .os) (e : Entry) :
    ∃ v ∈ visitors, v.kind = (if k = .byt then .byt else .str) ∧
      v.borrowsDe = (e == .borrowing) ∧
      ∀ t, deserialize valid osDe k e t = visit valid v t := by
  have mem : ∀ id v, findVisitor visitors id = some v → v ∈ visitors :=
    fun id v h => List.mem_of_find?_eq_some h
  cases k with
  | os => exact absurd rfl hk
  | byt =>
    cases e
    · exact ⟨_, mem .bytOwned _ rfl, rfl, rfl, fun _ => rfl⟩
    · exact ⟨_, mem .bytBorrowed _ rfl, rfl, rfl, fun _ => rfl⟩
  | str | path =>
    cases e
    · exact ⟨_, mem .strOwned _ rfl, rfl, rfl, fun _ => rfl⟩
    · exact ⟨_, mem .strBorrowed _ rfl, rfl, rfl, fun _ => rfl⟩

/-- Deserialising any single token into `HipByt`/`HipStr`/`HipPath` yields the token's content,
well-formed UTF-8 for `HipStr`/`HipPath`, borrowed only through `borrow_deserialize` from a
borrowed token. -/
theorem deserialize_sound (valid : List UInt8 → Bool) (osDe : Token → Except Err (List UInt8))
    (k : HipKind) (hk : k ≠ .os) (e : Entry) (t : Token) (ht : t.wf valid = true)
    (c : List UInt8) (br : Bool) (h : deserialize valid osDe k e t = .ok (c, br)) :
    t.content = some c ∧ (k ≠ .byt → valid c = true) ∧
      (br = true → t.isBorrowed = true ∧ e = .borrowing) := by
  obtain ⟨v, hv, hkind, hbor, heq⟩ := entry_is_visit valid osDe k hk e
  rw [heq] at h
  obtain ⟨h1, h2, h3⟩ := visit_sound valid v hv t ht c br h
  refine ⟨h1, fun hne => h2 (by simp [hkind, hne]), fun hb => ⟨(h3 hb).1, ?_⟩⟩
  have := (h3 hb).2
  rw [hbor] at this
  simpa using this

/-- `HipStr`, `HipOsStr`, `HipPath` serialise exactly like `str`, `OsStr`, `Path`; `HipByt`
uses the format's byte-string call. -/
theorem serialize_like_std (valid : List UInt8 → Bool) (c : List UInt8) :
    serialize valid .str c = some (Spec.Codec.strSer c) ∧
    serialize valid .os c = some (Spec.Codec.osStrSer c) ∧
    serialize valid .path c = some (Spec.Codec.pathSer valid c) ∧
    serialize valid .byt c = some (.bytes c) :=
  ⟨rfl, rfl, rfl, rfl⟩

/-- Serialise then deserialise (owned or borrowing entry point, whichever way the format hands
the string / byte string / sequence back) gives the same content. -/
theorem serde_roundtrip (valid : List UInt8 → Bool) (osDe : Token → Except Err (List UInt8))
    (k : HipKind) (hk : k ≠ .os) (e : Entry) (c : List UInt8) (hc : k ≠ .byt → valid c = true)
    (o : SerOut) (ho : serialize valid k c = some o) (hint : Option Nat) (t : Token)
    (ht : t ∈ presentations o hint) :
    ∃ br, deserialize valid osDe k e t = .ok (c, br) := by
  obtain ⟨v, hv, hkind, _, heq⟩ := entry_is_visit valid osDe k hk e
  rw [heq]
  by_cases hb : k = .byt
  · subst hb
    cases (Option.some.inj ho : SerOut.bytes c = o)
    simp only [presentations, List.mem_cons, List.not_mem_nil, or_false] at ht
    rcases ht with rfl | rfl | rfl | rfl
    · exact accepts_bytes_of_ok valid (vok hv) hkind .bytes (.inl rfl) c
    · exact accepts_bytes_of_ok valid (vok hv) hkind .borrowedBytes (.inr (.inl rfl)) c
    · exact accepts_bytes_of_ok valid (vok hv) hkind .byteBuf (.inr (.inr rfl)) c
    · exact ⟨false, accepts_vec_of_ok valid (vok hv) hkind _ c
        (by simp [Spec.Codec.vecU8De, collect_map_some])⟩
  · -- `HipStr` and (valid) `HipPath` both write `serialize_str`, read back by a `HipStr` visitor
    have hvc := hc hb
    have ho' : serialize valid k c = some (.str c) := by
      cases k
      · exact absurd rfl hb
      · rfl
      · exact absurd rfl hk
      · simp [(serialize_like_std valid c).2.2.1, Spec.Codec.pathSer, hvc]
    cases Option.some.inj (ho'.symm.trans ho)
    simp only [presentations, List.mem_cons, List.not_mem_nil, or_false] at ht
    rcases ht with rfl | rfl | rfl <;>
      exact accepts_string_of_ok valid (vok hv) (by rw [hkind, if_neg hb]) _ (by simpa [Token.wf] using hvc) c
        (by simp [Spec.Codec.stringDe])

/-- A bstr conversion keeps the bytes; into `HipStr` it succeeds only on well-formed UTF-8;
it borrows only from a `&BStr`. -/
theorem bstr_sound (valid : List UInt8 → Bool) (r : BstrRow) (hr : r ∈ bstrRows)
    (p c : List UInt8) (br : Bool) (h : bstrConv valid r p = .ok (c, br)) :
    c = p ∧ (r.kind = .str → valid c = true) ∧
      (br = true → r.src = .bstrRef ∨ r.src = .cowBorrowed) :=
  bstr_sound_of_ok valid r (List.all_eq_true.mp bstr_table_ok r hr) p c br h

/-! ## Instances for the UTF-8 model of C06 (`HipVerif.Utf8.valid` = `core::str::from_utf8`) -/

/-- A `HipStr` read by borsh from arbitrary bytes is well-formed UTF-8 (Unicode Table 3-7). -/
theorem borsh_str_valid_utf8 (input s rest : List UInt8)
    (h : (deStr Utf8.valid input).result = .ok (s, rest)) : Utf8.valid s = true :=
  borsh_str_valid Utf8.valid input s rest h

/-- A `HipStr`/`HipPath` deserialised through serde from any single token is well-formed UTF-8
and has the token's content. -/
theorem deserialize_valid_utf8 (osDe : Token → Except Err (List UInt8)) (k : HipKind)
    (hk : k = .str ∨ k = .path) (e : Entry) (t : Token) (ht : t.wf Utf8.valid = true)
    (c : List UInt8) (br : Bool) (h : deserialize Utf8.valid osDe k e t = .ok (c, br)) :
    t.content = some c ∧ Utf8.valid c = true := by
  have hne : k ≠ .os := by rcases hk with rfl | rfl <;> simp
  have hnb : k ≠ .byt := by rcases hk with rfl | rfl <;> simp
  have := deserialize_sound Utf8.valid osDe k hne e t ht c br h
  exact ⟨this.1, this.2.1 hnb⟩

example : (deStr Utf8.valid [2, 0, 0, 0, 0xc3, 0xa9]).result = .ok ([0xc3, 0xa9], []) := by decide +kernel
example : (deStr Utf8.valid [2, 0, 0, 0, 0xc3, 0x28]).result = .error .invalidData := by decide +kernel
example : (deStr Utf8.valid [3, 0, 0, 0, 0xed, 0xa0, 0x80]).result = .error .invalidData := by decide +kernel

/-- A stand-in UTF-8 predicate for the examples (ASCII only). -/
private def ascii (s : List UInt8) : Bool := s.all (· < 0x80)

private def strBorrowedRow : VisitorRow := (findVisitor visitors .strBorrowed).getD default
private def bytOwnedRow : VisitorRow := (findVisitor visitors .bytOwned).getD default

-- borsh: a real round trip, a truncated payload, the D12 witness (oversized prefix), bad UTF-8
example : (de (ser [1, 2, 3] ++ [9])).result = .ok ([1, 2, 3], [9]) := by decide +kernel
example : ser [1, 2, 3] = [3, 0, 0, 0, 1, 2, 3] := by decide +kernel
example : (de [3, 0, 0, 0, 1, 2]).result = .error .eof := by decide +kernel
example : (de [0xff, 0xff, 0xff, 0xff, 1, 2, 3]).result = .error .eof ∧
    (de [0xff, 0xff, 0xff, 0xff, 1, 2, 3]).maxRequest = 4096 := by decide +kernel
example : (de [3, 0, 0]).result = .error .eof := by decide +kernel
example : (de [0, 0, 0, 0, 7]).result = .ok ([], [7]) := by decide +kernel
example : (deStr ascii [2, 0, 0, 0, 0x61, 0xff]).result = .error .invalidData := by decide +kernel
example : (deStr ascii [2, 0, 0, 0, 0x61, 0x62]).result = .ok ([0x61, 0x62], []) := by decide +kernel
-- the table predicates are falsifiable: the pre-fix reader shape (reserves the whole prefix) is rejected
example : borshDeRowOk capLimit ⟨.byt, .reader 4 true .exact true .setLen, [], true, "x"⟩ = false := by decide +kernel
-- a raw `read` in an otherwise well-shaped reader, and a raw `write`, are rejected
example : borshDeRowOk capLimit
    ⟨.byt, .reader 4 true (.minLen 4096) true .fromVec, [.delegate "u32::deserialize_reader", .read], false, "x"⟩
    = false := by decide +kernel
example : borshSerRowOk ⟨.byt, .sliceU8, [.write], false, "x"⟩ = false := by decide +kernel
example : deRowOk visitors deRows ⟨.byt, .owned, .visitor .bytes .bytOwned, true, "x"⟩ = false := by decide +kernel
-- the owned hint is fine for the owned entry point and rejected for `borrow_deserialize`
example : deRowOk visitors deRows ⟨.byt, .owned, .visitor .byteBuf .bytOwned, false, "x"⟩ = true := by decide +kernel
example : deRowOk visitors deRows ⟨.byt, .borrowing, .visitor .byteBuf .bytBorrowed, false, "x"⟩ = false := by
  decide +kernel
example : deRowOk visitors deRows ⟨.str, .borrowing, .visitor .string .strBorrowed, false, "x"⟩ = false := by
  decide +kernel
example : (deShape (.reader 4 true .exact true .setLen) [0xff, 0xff, 0xff, 0xff, 1, 2, 3]).maxRequest
    = 4294967295 := by decide +kernel
-- a `HipStr` visitor with an unvalidated `visit_bytes` is rejected
example : visitorOk capLimit
    { id := .strOwned, kind := .str, name := "V", borrowsDe := false, loc := "x",
      methods := [⟨.str, .copy, "x"⟩, ⟨.bytes, .copy, "x"⟩] } = false := by decide +kernel
-- serde: hypotheses of `visit_sound` / `borrow_when_offered` are satisfiable, outcomes differ
example : strBorrowedRow ∈ visitors ∧ strBorrowedRow.borrowsDe = true :=
  ⟨List.mem_of_find?_eq_some (p := (·.id == .strBorrowed)) rfl, rfl⟩
example : visit ascii strBorrowedRow (.borrowedStr [0x61]) = .ok ([0x61], true) := by decide +kernel
example : visit ascii strBorrowedRow (.str [0x61]) = .ok ([0x61], false) := by decide +kernel
example : visit ascii strBorrowedRow (.borrowedBytes [0xff]) = .error .invalidValue := by decide +kernel
example : visit ascii strBorrowedRow (.seq none []) = .error .invalidType := by decide +kernel
example : visit ascii bytOwnedRow (.borrowedBytes [0xff]) = .ok ([0xff], false) := by decide +kernel
example : visit ascii bytOwnedRow (.seq (some 1000000) [some 1, some 2]) = .ok ([1, 2], false) ∧
    visitReserve bytOwnedRow (.seq (some 1000000) [some 1, some 2]) = some 4096 := by decide +kernel
example : visit ascii bytOwnedRow (.seq none [some 1, none]) = .error .element := by decide +kernel
example : visit ascii bytOwnedRow .other = .error .invalidType := by decide +kernel
example : (Token.borrowedStr [0x61]).wf ascii = true ∧ (Token.str [0xff]).wf ascii = false := by
  decide +kernel
example : deserialize ascii (fun _ => .error .custom) .path .borrowing (.borrowedStr [0x2f])
    = .ok ([0x2f], true) := by decide +kernel
example : serialize ascii .path [0xff] = some .error ∧ serialize ascii .path [0x2f] = some (.str [0x2f])
    := by decide +kernel

end HipVerif.Props.C16
