/-
C06 — HipStr is always well-formed UTF-8.

Validity is preserved at the level of the std-side specification (plain byte lists,
`Str.spec_valid_step`) and transported to the representation model by the refinement theorem:
whatever sharing, offsets, stale tails or copies the representation goes through, what a handle
reads back is what the specification says, hence well-formed.  `Gen.StrGuards` (REGENERATED from
src/string.rs, src/string/convert.rs, src/os_string.rs) records that the checks the `HipStr` API
is supposed to perform are present in the source, in order.
-/
import HipVerif.Gen.StrGuards
import HipVerif.Lemmas.CoreRun
import HipVerif.Lemmas.SpecValid
import HipVerif.Lemmas.CoreStrStep
import HipVerif.Audit.Reexport
import HipVerif.Props.C10

namespace HipVerif.Props.C06
open HipVerif.Core HipVerif.Spec.Std HipVerif.Str HipVerif.Utf8

/-- Every validity guard of the `HipStr` API is present in the source: `truncate` ASSERTS (not
debug-asserts) the boundary before truncating, `try_slice` checks both ends before slicing, `slice`
panics exactly when `try_slice` errs, `from_utf8`/`TryFrom` validate before the unchecked
constructor and hand the bytes back on error, `pop` truncates at the last char's start, `push`
appends `encode_utf8`, OsStr→str conversions validate first. -/
theorem str_guards_present : ∀ g ∈ Gen.StrGuards.guards, g.found = true := by decide

/-- One step of the REPRESENTATION model keeps every value well-formed, for every legitimate
`HipStr` call (`StrSafe`: arguments typed `&str`/`char`, cuts at char boundaries — what the guards
above establish). -/
theorem utf8_step (cfg : Cfg) (s : State) (op : Op) (w : Wf cfg s) (hok : OpOk s op)
    (hv : AllValid (abs s)) (hs : StrSafe s.srcs (abs s) op) : AllValid (abs (step cfg s op).1) :=
  valid_core_step op w hok hv hs

/-- legitimate `HipStr` histories -/
def AllStrSafe (cfg : Cfg) (s : State) : List Op → Prop
  | [] => True
  | op :: ops => StrSafe s.srcs (abs s) op ∧ AllStrSafe cfg (step cfg s op).1 ops

/-- Through ANY sequence of legitimate operations every `HipStr` stays well-formed UTF-8. -/
theorem utf8_inv (cfg : Cfg) (ops : List Op) :
    ∀ s, Wf cfg s → AllOk cfg s ops → AllStrSafe cfg s ops → AllValid (abs s) →
      AllValid (abs (run cfg s ops).1) := by
  induction ops with
  | nil => intro s _ _ _ hv; exact hv
  | cons op ops ih =>
    intro s w hok hss hv
    rw [run_cons]
    exact ih _ (wf_step cfg s op w) hok.2 hss.2 (utf8_step cfg s op w hok.1 hv hss.1)

/-- `HipStr::push(char)`: appending the encoding of a scalar value is a legitimate operation. -/
theorem push_char_safe (srcs : List (List UInt8)) (p : SPool) (h c : Nat) (hc : isScalar c = true) :
    StrSafe srcs p (.pushSlice h (encode c)) := valid_encode hc

/-- `HipStr::pop`: truncating at the start of the last scalar is a legitimate operation (the
boundary assertion inside `truncate` cannot fire), and what is removed is exactly one scalar. -/
theorem pop_char_safe (srcs : List (List UInt8)) (p : SPool) (h : Nat) (v : List UInt8)
    (hg : sget p h = some v) (hv : valid v = true) (hne : v ≠ []) :
    StrSafe srcs p (.truncate h (lastCharStart v)) ∧
      ∃ c, isScalar c = true ∧ v.drop (lastCharStart v) = encode c := by
  obtain ⟨hb, _, _, hc⟩ := lastCharStart_spec hv hne
  refine ⟨?_, hc⟩
  intro v' hg' _
  rw [hg] at hg'; cases hg'
  exact hb

/-- `truncate` off a char boundary, `try_slice`/`slice` with an end inside a code point, and
`from_utf8` of ill-formed bytes are REJECTED and leave the state unchanged. -/
theorem reject_unchanged (cfg : Cfg) (s : State) :
    (∀ h n hd, getH s h = some hd → n ≤ (view s hd).length → isBoundary (view s hd) n = false →
      strStep cfg s (.truncate h n) = (s, .panic)) ∧
    (∀ d bs, valid bs = false → strStep cfg s (.fromUtf8 d bs) = (s, .utf8Err (validUpTo bs))) ∧
    (∀ h d sb eb hd a b, getH s h = some hd →
      Gen.Ranges.simplifyRangeMono sb eb (view s hd).length = .ok (a, b) →
      (isBoundary (view s hd) a = false → strStep cfg s (.trySlice h d sb eb) = (s, .sliceErr (.startNotBoundary a b))) ∧
      (isBoundary (view s hd) a = true → isBoundary (view s hd) b = false →
        strStep cfg s (.trySlice h d sb eb) = (s, .sliceErr (.endNotBoundary a b))) ∧
      ((isBoundary (view s hd) a && isBoundary (view s hd) b) = false →
        strStep cfg s (.slice h d sb eb) = (s, .panic))) := by
  refine ⟨?_, ?_, ?_⟩
  · intro h n hd hg hn hb
    simp [strStep, hg, hn, hb]
  · intro d bs hv
    simp [strStep, hv]
  · intro h d sb eb hd a b hg hr
    refine ⟨?_, ?_, ?_⟩
    · intro ha; simp [strStep, hg, hr, ha]
    · intro ha hb; simp [strStep, hg, hr, ha, hb]
    · intro hab; simp [strStep, hg, hr, hab]

/-- `HipStr::concat` with ANY iterator / `AsRef<str>` misbehaviour: whatever value is returned is
well-formed UTF-8 (the pieces are `&str`s, hence valid; the value is exactly the concatenation of
the pieces actually copied — `C10.concat_adversarial` — never uninitialised bytes). -/
theorem concat_str_valid (icap : Nat) (ps₁ ps₂ : List (List UInt8)) (bs : List (Option UInt8)) (hp : Bool)
    (hv : ∀ p ∈ ps₂, valid p = true)
    (h : Concat.concat Gen.Concat.concat icap ps₁ ps₂ = .value bs hp) :
    ∃ v, bs = v.map some ∧ valid v = true := by
  by_cases h0 : Concat.total ps₁ = 0
  · rw [(HipVerif.Props.C10.concat_adversarial icap ps₁ ps₂).1 h0] at h
    cases h; exact ⟨[], rfl, rfl⟩
  · rcases (HipVerif.Props.C10.concat_adversarial icap ps₁ ps₂).2 h0 with hpanic | ⟨hval, _⟩
    · rw [hpanic] at h; cases h
    · rw [hval] at h; cases h
      exact ⟨ps₂.flatten, rfl, valid_flatten hv⟩

/-- the same for `HipStr::join` (the separator is a `&str` too) -/
theorem join_str_valid (icap : Nat) (ps₁ ps₂ : List (List UInt8)) (sep : List UInt8)
    (bs : List (Option UInt8)) (hp : Bool)
    (hv : ∀ p ∈ ps₂, valid p = true) (hsep : valid sep = true)
    (h : Concat.join Gen.Concat.join icap ps₁ ps₂ sep = .value bs hp) :
    ∃ v, bs = v.map some ∧ valid v = true := by
  by_cases h0 : ps₁ = []
  · rw [(HipVerif.Props.C10.join_adversarial icap ps₁ ps₂ sep).1 h0] at h
    cases h; exact ⟨[], rfl, rfl⟩
  · rcases (HipVerif.Props.C10.join_adversarial icap ps₁ ps₂ sep).2 h0 with hpanic | ⟨hval, _⟩
    · rw [hpanic] at h; cases h
    · rw [hval] at h; cases h
      exact ⟨Concat.specJoin ps₂ sep, rfl, valid_intercalate hsep hv⟩

/-! Non-vacuity. -/

example : valid [0xC3, 0xA9] = true ∧ isBoundary [0xC3, 0xA9] 1 = false := by decide

example : AllValid [some [0xC3, 0xA9], none] := by
  intro h v hg
  match h, hg with
  | 0, hg => simp [sget] at hg; subst hg; decide
  | 1, hg => simp [sget] at hg
  | (n + 2), hg => simp [sget] at hg

/-! ### The `HipStr` layer itself

`strStep` (the checks `HipStr` adds on top of `HipByt`), proved in `Lemmas/CoreStrStep.lean`.  Here
the only hypothesis on arguments is their TYPE (`StrArgsOk`: `&str`/`char` arguments are
well-formed); the cuts are checked by the layer's own guards. -/

/-- the representation invariant survives every `HipStr` call -/
reexport HipVerif.Str.strStep_wf as str_step_wf
/-- **every `HipStr` call keeps every value well-formed UTF-8** — `push(char)`, `pop`, `truncate`,
`try_slice`, `slice`, `from_utf8` rely on their own checks only -/
reexport HipVerif.Str.strStep_valid as str_step_valid
/-- a call the layer rejects (panic, slice error, UTF-8 error) leaves the state untouched -/
reexport HipVerif.Str.strStep_reject_unchanged as str_reject_unchanged
/-- through any history of `HipStr` calls from the initial state -/
reexport HipVerif.Str.strRun_init_valid as str_run_valid
/-- … and from any well-formed state holding valid UTF-8 -/
reexport HipVerif.Str.strRun_valid as str_run_valid_from
/-! Agreement with `String`/`str`: what each accepted call does, and exactly which calls are
accepted. -/

/-- `truncate(n)` on a boundary keeps the first `n` bytes -/
reexport HipVerif.Str.strStep_truncate_spec as str_truncate_spec
/-- `pop` returns the last scalar and leaves the rest -/
reexport HipVerif.Str.strStep_popChar_spec as str_pop_spec
/-- `pop`'s internal boundary re-check can never fire on a well-formed value -/
reexport HipVerif.Str.strStep_popChar_no_panic as str_pop_no_panic
/-- `push(c)` appends `encode c` -/
reexport HipVerif.Str.strStep_pushChar_spec as str_push_char_spec
/-- `push_str(t)` appends the bytes of `t` -/
reexport HipVerif.Str.strStep_pushStr_spec as str_push_str_spec
/-- `try_slice`: which error or which value, case by case -/
reexport HipVerif.Str.strStep_trySlice_spec as str_try_slice_spec
/-- `try_slice` accepts exactly the in-bounds ranges whose two ends are char boundaries -/
reexport HipVerif.Str.strStep_trySlice_accepted_iff as str_try_slice_accepted_iff
/-- `slice`: the value, or a panic that leaves the state alone -/
reexport HipVerif.Str.strStep_slice_spec as str_slice_spec
/-- `from_utf8`: `valid_up_to` on rejection, the very bytes on acceptance -/
reexport HipVerif.Str.strStep_fromUtf8_spec as str_from_utf8_spec
/-- `from_utf8` accepts exactly the well-formed byte strings -/
reexport HipVerif.Str.strStep_fromUtf8_accepted_iff as str_from_utf8_accepted_iff

end HipVerif.Props.C06
