/-
C05 (premise) — why it is sound for the `Arc` backend to be `Sync`.

The Send/Sync table of Props/C05.lean says that Arc-backed values may be shared between threads.
That is sound only if every update of the share count that a thread can perform through a shared
reference is ONE atomic read-modify-write, and every read an atomic load. These are facts about the
source of `impl Kind for Arc` (src/smart.rs), regenerated on every run into `Gen/Atomics.lean`;
they are restated here so that a change which keeps the Send/Sync table intact but makes the
counter update non-atomic (a load followed by a plain store) breaks C05 by name as well as C04.
The consequences for executions (no lost increment, freed exactly once, race freedom — also for a
handle used by reference from several threads) are the theorems of Props/C04.lean; the concrete
schedules come from loomdrive.
-/
import HipVerif.Audit.Reexport
import HipVerif.Props.C04

namespace HipVerif.Props.C05

/-- `Arc::incr` is a compare-exchange loop: the increment is one atomic read-modify-write. -/
reexport HipVerif.Props.C04.incr_is_rmw as arc_incr_is_rmw
/-- `Arc::decr` is one `fetch_sub`. -/
reexport HipVerif.Props.C04.decr_is_rmw as arc_decr_is_rmw
/-- no counter method stores to the count other than through a read-modify-write; `is_unique` and
`get` only load -/
reexport HipVerif.Props.C04.no_plain_store as arc_no_plain_store
/-- while a shared reference to a handle is out (what `Sync` permits), its lender still holds a
handle and the buffer has not been freed (that no increment is lost is `C04.count_tracks`) -/
reexport HipVerif.Props.C04.lent_alive as shared_reference_keeps_alive

end HipVerif.Props.C05
