/-
C01 (coverage part) — every fn of the byte string and of its representation layer is an
operation of the Core model, a helper reached through one, monitored, or reviewed.

Decided over `Gen/BytApi.lean` (regenerated on every run from /repo/src — every inherent fn of
`HipByt`, `Union`, `Allocated`, `TaggedSmart`, `Borrowed`, `Smart`, the free fns of `bytes` and
`bytes::raw`, the lifecycle/conversion trait impls of `HipByt`, with the call graph's
reachability from the public entry points — and from `harness/src/bin/coredrive.rs` — the
operation names it dispatches on, the methods `impl Subject for HipByt` calls). The reviewed map
`bytApiCoverage` and the predicates are in `Model/BytApi.lean`.
This is the gate that a new `HipByt::split_off` with a zero-copy `Allocated::split_off_unchecked`
(not in the model's alphabet, not called by the differential) cannot pass silently.
-/
import HipVerif.Model.BytApi
import HipVerif.Lemmas.KeyClasses

namespace HipVerif.Props.C01
open HipVerif.Model.BytApi HipVerif.Classes
open HipVerif.Gen.BytApi (bytFns driveOps bytCalls driveCalls)

/- Evaluated (not kernel-checked) sanity check of the generated numeric keys. -/
#guard bytApiKeysOk

/-- **Every fn of the byte-string family is covered.** Each fn — safe or unsafe, public or
    private — of `HipByt`, its union, the three representations and the counted pointer has
    exactly one entry in the reviewed map, and the entry is backed by the generated facts:
    `coreOp ops` — a public entry point, every `op` is an operation of the Core model (`opKey`)
    that coredrive dispatches on, and `impl Subject for HipByt` calls a method of the fn's name;
    `coreOpImplicit ops` — the same without a call by name (`Drop::drop`: every handle of a
    sequence is dropped); `viaOp eps` — every named entry point is itself driven or monitored and reaches the helper in
    the generated call graph; `monitoredBy` — coredrive calls a method of that name; or it is on
    the reviewed not-driven list (with the reason). No entry is stale or duplicated, and the Core
    model's vocabulary is contained in coredrive's dispatch. -/
theorem byt_api_covered :
    (∀ f ∈ bytFns, ∃ c, coverOf f.key = some c) ∧
    (∀ e ∈ bytApiCoverage, entryOk e = true) ∧
    staleEntries = [] ∧ opsDispatched = true := by
  have h2 : (bytApiCoverage.all entryOk) = true := by decide +kernel
  -- `keysMatch` is the class-wise form of `bytFns.all fnCovered` and `staleEntries = []`: fns
  -- against entries, entries against fns and against each other.
  have hk : keysMatch 13 (·.key) (fun _ => true) bytFns bytApiCoverage = true := by decide +kernel
  obtain ⟨h1, h3⟩ := keysMatch_sound (by decide) hk
  exact ⟨fun f hf => h1 f hf rfl, List.all_eq_true.mp h2, h3, by decide +kernel⟩

/-- **The Core model's operations are complete w.r.t. the map**: every operation of `Core.Op` has
    a protocol name in `modelOpKeys` (so the statements above speak about all 34 of them), and
    every one of them is the image of at least one fn of the crate. -/
theorem core_ops_complete :
    (∀ op : HipVerif.Core.Op, opKey op ∈ modelOpKeys) ∧ opsImplemented = true := by
  refine ⟨fun op => ?_, by decide +kernel⟩
  cases op <;> (simp only [opKey]; decide)

/-! ### Non-vacuity -/

/-- The tables are inhabited; the listings are empty on the current tree. -/
example : bytFns.length = 135 ∧ modelOpKeys.length = 34 ∧ driveOps.length ≥ 41 ∧
    (bytApiCoverage.filter fun e => match e.2 with | .coreOp _ => true | _ => false).length ≥ 30 ∧
    uncoveredFns.length = 0 ∧ badEntries = [] := by
  obtain ⟨h1, h2, -, -⟩ := byt_api_covered
  have hu : uncoveredFns = [] := by
    refine List.filter_eq_nil_iff.mpr fun f hf => ?_
    obtain ⟨c, hc⟩ := h1 f hf
    simp [fnCovered, hc]
  have hb : badEntries = [] := failing_eq_nil h2
  simp only [hu, hb, List.length_nil, and_true]
  decide +kernel

/-- What the predicates reject: a fn without an entry (`HipByt::split_off`); an entry naming an
    operation the model does not have; a `coreOp` on a method coredrive's `Subject for HipByt`
    never calls; a `viaOp` through an entry point that does not reach the helper. -/
example :
    fnCovered ⟨"bytes::raw::HipByt::split_off", key% "bytes::raw::HipByt::split_off", "split_off",
      key% "split_off", "bytes::raw::HipByt", .pub, false, [], "x"⟩ = false ∧
    entryOk (key% "bytes::raw::HipByt::truncate", .coreOp [key% "no_such_op"]) = false ∧
    entryOk (key% "bytes::raw::HipByt::as_borrowed", .coreOp [key% "into_borrowed"]) = false ∧
    entryOk (key% "bytes::raw::allocated::Allocated::shrink_to", .viaOp [key% "bytes::raw::HipByt::new"]) = false ∧
    entryOk (key% "bytes::raw::allocated::Allocated::shrink_to", .viaOp [key% "bytes::raw::HipByt::shrink_to"]) = true := by
  decide +kernel

end HipVerif.Props.C01
