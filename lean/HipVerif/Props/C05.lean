/-
C05 — Only soundly shareable values are Send/Sync.

Decided over `Gen/AutoTraits.lean` (struct fields and `unsafe impl Send/Sync` of the real
source, regenerated on every run) by the resolution procedure `Model.AutoTrait.holds`.
The base facts of `holds` are checked against rustc's own verdicts by
`harness/src/bin/probedrive.rs`.  When a theorem here breaks, `tables_driver` command
`rows_c05` lists the falsifying rows with their `file:line`.
-/
import HipVerif.Model.AutoTraitRows

namespace HipVerif.Props.C05
open HipVerif.Model.AutoTrait
open HipVerif.Gen.AutoTraits (table)

/-- **C05 main table.** For every public type that carries a backend (byte/string/OS-string/path
    handles, their `mutate` guards, the slice/UTF-8 errors, the split iterator wrapper) and every
    backend: the type is `Send` iff it is `Sync` iff the backend is not `Rc`. So an `Rc`-backed
    value can be neither moved to nor shared with another thread, while `Arc`-backed and
    `Unique` values can. -/
theorem send_sync_table :
    ∀ T ∈ pubTypes, ∀ b ∈ backends,
      holds fuel table .send (T.2 b.ty) = (b != .rc) ∧
      holds fuel table .sync (T.2 b.ty) = (b != .rc) := by
  have h : (pubTypes.all fun T => backends.all fun b => rowOk T b) = true := by decide +kernel
  intro T hT b hb
  have := (List.all_eq_true.mp ((List.all_eq_true.mp h) T hT)) b hb
  simpa [rowOk] using this

/-- The backends themselves: the atomic counter and the unit backend are `Send + Sync`; the
    non-atomic counter (`Cell<usize>`) is `Send` but not `Sync`, which is what the `B: Sync`
    requirement of every impl keys on. -/
theorem backend_facts :
    holds fuel table .send BackendK.arc.ty = true ∧ holds fuel table .sync BackendK.arc.ty = true ∧
    holds fuel table .send BackendK.unique.ty = true ∧ holds fuel table .sync BackendK.unique.ty = true ∧
    holds fuel table .send BackendK.rc.ty = true ∧ holds fuel table .sync BackendK.rc.ty = false := by
  decide +kernel

/-- The verdicts do not depend on the borrow lifetime: every explicit `Send`/`Sync` impl in the
    crate is generic over the lifetime arguments of its self type (`'_` or an unconstrained
    parameter, no lifetime where-clause); the structural rule never looks at lifetimes (they
    are erased from the term language). -/
theorem lifetime_free : ∀ i ∈ table.impls, i.lifetimeGeneric = true := by
  have h : (table.impls.all implLifetimeFree) = true := by decide +kernel
  intro i hi
  exact (List.all_eq_true.mp h) i hi

/-- No explicit impl is negative, and the only other where-clauses on them are the
    well-formedness bounds of the target type, so `holds` loses nothing by ignoring them. -/
theorem impl_bounds_benign :
    ∀ i ∈ table.impls, i.negative = false ∧ ∀ b ∈ i.otherBounds, b ∈ benignBounds := by
  have h : (table.impls.all implBoundsBenign) = true := by decide +kernel
  intro i hi
  have hi' := (List.all_eq_true.mp h) i hi
  simp only [implBoundsBenign, Bool.and_eq_true, Bool.not_eq_true', List.all_eq_true] at hi'
  refine ⟨hi'.1, fun b hb => ?_⟩
  simpa using hi'.2 b hb

/-- The evaluation shared by `rc_count_single_thread` and its non-vacuity example: the reachable
    types that mention a counter are computed once (the reachability walk is what is dear); each
    passes the row predicate, and there are more than 20. -/
private theorem rc_count_single_thread_rows :
    ((rcReachable.filter (mentionsCell fuel table)).all cellRowOk) = true ∧
    (rcReachable.filter (mentionsCell fuel table)).length > 20 := by decide +kernel

/-- **No two threads can touch a non-atomic share count.** Take any type `U` that occurs in the
    data of an `Rc`-backed public type (fields, pointers, markers, guards' references …). If a
    `Cell` counter is reachable from `U` then `U` is not `Sync`, and unless `U` holds the counter
    by value (`Rc`, `Inner<_, Rc>` — moving those moves the only access path) `U` is not `Send`
    either. -/
theorem rc_count_single_thread :
    ∀ U ∈ rcReachable, mentionsCell fuel table U = true →
      holds fuel table .sync U = false ∧
      (ownsCell fuel table U = false → holds fuel table .send U = false) := by
  intro U hU hm
  have := List.all_eq_true.mp rc_count_single_thread_rows.1 U (List.mem_filter.mpr ⟨hU, hm⟩)
  simp only [cellRowOk, hm, Bool.not_true, Bool.false_or, Bool.and_eq_true, Bool.not_eq_true',
    Bool.or_eq_true] at this
  exact ⟨this.1, fun ho => this.2.resolve_left (by simp [ho])⟩

/-! ### Non-vacuity -/

/-- The table is inhabited: 12 public type constructors × 3 backends. -/
example : pubTypes.length = 12 ∧ backends.length = 3 := by decide

/-- The quantifier of `rc_count_single_thread` is not vacuous: counters ARE reachable. -/
example : (rcReachable.filter (mentionsCell fuel table)).length > 20 :=
  rc_count_single_thread_rows.2

/-- `Inner<Vec<u8>, Rc>` is the by-value owner the exemption is for: `Send`, not `Sync`. -/
example :
    let u := Ty.named "smart::Inner" [.std "alloc::vec::Vec" [.prim "u8"], BackendK.rc.ty]
    ownsCell fuel table u = true ∧ holds fuel table .send u = true ∧
      holds fuel table .sync u = false := by decide +kernel

/-- The explicit impls matter: WITHOUT them (`impls := []`) `HipByt<Arc>` would be neither
    `Send` nor `Sync` (raw pointers in `Pivot`), i.e. the structural rule is really replaced. -/
example :
    holds fuel ⟨table.defs, []⟩ .send (.named "bytes::raw::HipByt" [BackendK.arc.ty]) = false := by
  decide +kernel

/-- The defect fixed in /repo (D3) is visible to the model: with `Send for HipByt` requiring
    only `B: Send`, `HipByt<Rc>: Send` would hold. -/
example :
    let weak : ImplFact :=
      ⟨.send, "bytes::raw::HipByt", false, [(.param 0, .send)], ["backend::Backend"], true, "mutant"⟩
    holds fuel ⟨table.defs, weak :: table.impls.filter (fun i => !(i.target == "bytes::raw::HipByt" && i.tr == .send))⟩
      .send (.named "bytes::raw::HipByt" [BackendK.rc.ty]) = true := by
  decide +kernel

end HipVerif.Props.C05
