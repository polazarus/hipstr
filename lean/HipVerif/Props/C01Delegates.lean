/-
C01 / C06 tie — "four types, one state machine": `HipStr`, `HipOsStr` and `HipPath` are
`HipByt` plus guards.

Decided over `Gen/Delegates.lean` (what the body of every wrapper fn does with the wrapped
value, and the wrapper fns the Core differential calls; regenerated from /repo/src on every
run). The reviewed inputs (`renamed`, `renamedRow`, `preserving`, `reviewed`) and the Bool row
predicates are in `Model/Delegates.lean`. These theorems justify modelling the three wrappers as
the `HipByt` state machine of §6.0 with the `strStep` guards on top: every wrapper fn either
calls the same-named `HipByt` fn with its arguments unchanged, or checks first, or is a reviewed
composition covered by another table. When a theorem breaks, `tables_driver` command
`rows_c01d` lists the falsifying rows with `file:line`.
-/
import HipVerif.Model.Delegates
import HipVerif.Lemmas.KeyClasses

namespace HipVerif.Props.C01
open HipVerif.Model.Delegates HipVerif.Classes
open HipVerif.Gen.Delegates (rows driven)

/- Evaluated (not kernel-checked) sanity check of the generated numeric keys. -/
#guard delegateKeysOk

/-- How the row predicates read "the body is one call on the wrapped value". -/
private theorem single_target {ts : List Named} {q : Named → Bool}
    (h : (match ts with | [t] => q t | _ => false) = true) : ∃ t, ts = [t] ∧ q t = true := by
  match ts with
  | [t] => exact ⟨t, rfl, h⟩
  | [] | _ :: _ :: _ => cases h

/-- **Pure delegates delegate to the right fn, arguments untouched.** Every wrapper fn whose body
    is a single call on the wrapped value calls the fn of the wrapped type with the SAME name —
    or the one listed in the reviewed renaming (`push_str → push_slice`, `as_str → as_slice`,
    `into_string → into_vec`, …) — and hands it every parameter exactly once, unchanged and in
    order (modulo `as_bytes()`-style re-typing of a typed argument). So its byte-level behaviour
    IS that `HipByt` fn's. -/
theorem delegates_named_ok :
    ∀ r ∈ rows, r.shape = .delegate →
      r.argsUnchanged = true ∧ ∃ t, r.targets = [t] ∧ t.1 = expectedTarget r := by
  have h : (rows.all delegateOk) = true := by decide +kernel
  intro r hr hs
  have := (List.all_eq_true.mp h) r hr
  simp only [delegateOk, hs, bne_self_eq_false, Bool.false_or, Bool.and_eq_true] at this
  obtain ⟨t, ht, h2⟩ := single_target this.2
  exact ⟨this.1, t, ht, by simpa using h2⟩

/-- **Bytes are only (re)typed, or mutated in place, after a valid-by-construction delegate or a
    guard.** Every SAFE wrapper fn that applies the tuple constructor, uses an unchecked
    re-typing constructor (`from_utf8_unchecked`, `from_encoded_bytes_unchecked`, `transmute`),
    or takes `&mut self`, is `guarded` (checks first), or is a pure delegate to a
    validity-preserving fn of the wrapped type with typed arguments only (never raw bytes, never
    a byte index: the slice/truncate family is not in `preserving`), or is a reviewed
    composition. -/
theorem retyping_only_after_delegate_or_guard :
    ∀ r ∈ rows, touchesValidity r = true → r.isUnsafe = false →
      r.shape = .guarded ∨
      (r.shape = .delegate ∧ (∃ t, r.targets = [t] ∧ t.1 ∈ preserving) ∧
        ∀ c ∈ r.argClasses, classTyped r.wrapper c = true) ∨
      ((r.shape = .composed ∨ r.shape = .other) ∧ ∃ e ∈ reviewed, e.1 = r.key) := by
  have h : (rows.all retypeOk) = true := by decide +kernel
  intro r hr ht hu
  have := (List.all_eq_true.mp h) r hr
  simp only [retypeOk, ht, hu, Bool.not_true, Bool.false_or, Bool.or_eq_true, Bool.and_eq_true,
    beq_iff_eq, List.all_eq_true, List.any_eq_true] at this
  rcases this with (h1 | h1) | h1
  · exact Or.inl h1
  · obtain ⟨t, ht, h2⟩ := single_target h1.1.2
    exact Or.inr (Or.inl ⟨h1.1.1, ⟨t, ht, by simpa using h2⟩, h1.2⟩)
  · exact Or.inr (Or.inr h1)

/-- **No unreviewed shape.** Every wrapper fn that is neither a pure delegate nor guarded is in
    the reviewed list (with the model that covers it), and every reviewed entry still exists as
    such a row — a new or changed composition breaks this theorem and `rows_c01d` names it. -/
theorem no_unreviewed_shapes :
    (∀ r ∈ rows, r.shape = .composed ∨ r.shape = .other → ∃ e ∈ reviewed, e.1 = r.key) ∧
    staleReviewed = [] := by
  -- Class-wise forms of `rows.all shapeReviewed` (a row that is neither `delegate` nor `guarded`
  -- is `composed` or `other`: those against the reviewed entries) and of `staleReviewed = []`
  -- (the entries against such rows).
  have h : (allAny 13 (·.key) (·.1) (fun r e => e.1 == r.key)
        (rows.filter fun r => r.shape == .composed || r.shape == .other) reviewed &&
      allAny 13 (·.1) (·.key)
        (fun e r => r.key == e.1 && (r.shape == .composed || r.shape == .other)) reviewed rows) = true := by
    decide +kernel
  rw [Bool.and_eq_true] at h
  refine ⟨fun r hr hs => ?_, List.map_eq_nil_iff.mpr (List.filter_eq_nil_iff.mpr fun e he => by
    simp [allAny_sound (by decide) h.2 e he])⟩
  have := allAny_sound (by decide) h.1 r (List.mem_filter.mpr ⟨hr, by simpa using hs⟩)
  simpa using this

/-- **The differential drives tabulated fns.** Every wrapper fn that the Core differential
    (`harness/src/bin/coredrive.rs`) calls on `HipStr` / `HipOsStr` / `HipPath` is a row of the
    table, so what it exercises is what these theorems classify. -/
theorem wrappers_covered :
    ∀ d ∈ driven, ∃ r ∈ rows, r.wrapper = d.1 ∧ r.simpleKey = d.2.1 := by
  -- driven fns against rows, class by class (simple-name key modulo 13)
  have h : allAny 13 (·.2.1) (·.simpleKey) (fun d r => r.wrapper == d.1 && r.simpleKey == d.2.1)
      driven rows = true := by decide +kernel
  intro d hd
  simpa using allAny_sound (by decide) h d hd

/-! ### Non-vacuity -/

/-- The table is inhabited in every shape, for every wrapper; the differential drives ≥ 40 fns. -/
example :
    (rows.filter fun r => r.shape == .delegate).length ≥ 100 ∧
    (rows.filter fun r => r.shape == .guarded).length ≥ 8 ∧
    (rows.filter fun r => r.shape == .composed || r.shape == .other).length = reviewed.length ∧
    (rows.filter fun r => touchesValidity r && !r.isUnsafe).length ≥ 80 ∧
    driven.length ≥ 40 := by decide +kernel

/-- Seeded shapes, all rejected:
    * a `truncate` that delegates without the char-boundary guard (in-place cut at a byte index);
    * a safe `slice` wrapper that calls `self.0.slice_unchecked` and wraps the result;
    * a delegate that swaps two arguments / drops one (`argsUnchanged = false`);
    * `push_str` delegating to the wrong fn;
    * a safe constructor wrapping raw bytes (`Self(HipByt::from(bytes))` with a `&[u8]` parameter). -/
example :
    retypeOk ⟨.str, "string::HipStr::truncate", key% "string::HipStr::truncate", key% "truncate", .pub,
      false, .delegate, [(key% "truncate", "truncate")], [], [], [], true, true, false, [], [.scalar], "x"⟩ = false ∧
    retypeOk ⟨.str, "string::HipStr::slice", key% "string::HipStr::slice", key% "slice", .pub,
      false, .delegate, [(key% "slice_unchecked", "slice_unchecked")], [], [], [], true, false, true, [],
      [.scalar], "x"⟩ = false ∧
    delegateOk ⟨.str, "string::HipStr::join_slices", key% "string::HipStr::join_slices", key% "join_slices", .pub,
      false, .delegate, [(key% "join_slices", "join_slices")], [], [], [], false, false, true, [],
      [.strLike, .strLike], "x"⟩ = false ∧
    delegateOk ⟨.str, "string::HipStr::push_str", key% "string::HipStr::push_str", key% "push_str", .pub,
      false, .delegate, [(key% "push", "push")], [], [], [], true, true, false, [], [.strLike], "x"⟩ = false ∧
    retypeOk ⟨.str, "string::HipStr::from_bytes", key% "string::HipStr::from_bytes", key% "from_bytes", .pub,
      false, .delegate, [(key% "from", "from")], [], [], [], true, false, true, [], [.bytesLike], "x"⟩ = false ∧
    shapeReviewed ⟨.str, "string::HipStr::frobnicate", key% "string::HipStr::frobnicate", key% "frobnicate", .pub,
      false, .other, [], [], [], [], false, false, false, [], [], "x"⟩ = false := by
  decide

/-- … while the real `truncate` (guarded) and `push_str` (typed argument, preserving target) pass. -/
example :
    (rows.any fun r => r.key == key% "string::HipStr::truncate" && r.shape == .guarded &&
      r.guards == [.charBoundary]) = true ∧
    (rows.any fun r => r.key == key% "string::HipStr::push_str" && r.shape == .delegate &&
      expectedTarget r == key% "push_slice" && r.argClasses == [.strLike]) = true := by
  decide +kernel

end HipVerif.Props.C01
