/-
C08 at the level of the values: `try_slice` / `slice` of the Core state machine against std's
checked indexing, for EVERY well-formed state (any representation, backend, ceiling), every
combination of bounds whose numbers fit a `usize`, every length.

`Props/C08` proves that the range arithmetic generated from the source (`Gen.Ranges`) computes
`stdGet`; this file carries the statement through the operations that use it: the content
returned, the error reported, "never panics", "slice panics exactly when try_slice errs", and the
frame (a rejected or accepted range leaves every other value alone).  The Core model is
hand-written and tied to the crate by `coredrive`; `Gen.Ranges` is what it calls for the bounds.
-/
import HipVerif.Lemmas.SpecFrame

namespace HipVerif.Props.C08
open HipVerif.Core HipVerif.Spec.Std HipVerif.RangeTy HipVerif.Spec.Range

/-- `try_slice` is total and is std's `get`: it answers `Ok` exactly when `get` of the same pair
of bounds succeeds, the destination then holds exactly `v[a..b]`; otherwise it reports the error
naming the first failing bound and no value changes.  It never panics. -/
theorem try_slice_spec (cfg : Cfg) (s : State) (h d : Nat) (sb eb : Bound) (v : List UInt8) (w : Wf cfg s)
    (hg : sget (abs s) h = some v) (hf : slotFree s d = true)
    (hs : Bound.fits sb) (he : Bound.fits eb) (hl : v.length ≤ isizeMax) :
    (abs (step cfg s (.trySlice h d sb eb)).1, eraseRet (step cfg s (.trySlice h d sb eb)).2.ret) =
      match stdGet sb eb v.length with
      | some (a, b) => ((abs s).set d (some ((v.drop a).take (b - a))), .bool true)
      | none => (abs s, sliceErrOf sb eb v.length) := by
  rw [← ref_op_trySlice h d sb eb w ⟨hs, he, fun hd hgh => hlen_of_sget w hg hgh ▸ hl⟩]
  simp only [spec_trySlice, sOnSlot, hg, sfree_abs, hf, if_true]
  cases stdGet sb eb v.length with
  | none => rfl
  | some ab => cases ab; rfl

/-- `slice` is std's indexing: the same sub-range when `get` succeeds, a panic otherwise. -/
theorem slice_spec (cfg : Cfg) (s : State) (h d : Nat) (sb eb : Bound) (v : List UInt8) (w : Wf cfg s)
    (hg : sget (abs s) h = some v) (hf : slotFree s d = true)
    (hs : Bound.fits sb) (he : Bound.fits eb) (hl : v.length ≤ isizeMax) :
    (abs (step cfg s (.slice h d sb eb)).1, eraseRet (step cfg s (.slice h d sb eb)).2.ret) =
      match stdGet sb eb v.length with
      | some (a, b) => ((abs s).set d (some ((v.drop a).take (b - a))), .unit)
      | none => (abs s, .panic) := by
  rw [← ref_op_slice h d sb eb w ⟨hs, he, fun hd hgh => hlen_of_sget w hg hgh ▸ hl⟩]
  simp only [spec_slice, sOnSlot, hg, sfree_abs, hf, if_true]
  cases stdGet sb eb v.length with
  | none => rfl
  | some ab => cases ab; rfl

private theorem eraseRet_eq_panic (r : Ret) : eraseRet r = .panic ↔ r = .panic := by
  cases r <;> simp [eraseRet]

private theorem eraseRet_eq_true (r : Ret) : eraseRet r = .bool true ↔ r = .bool true := by
  cases r <;> simp [eraseRet]

private theorem sliceErrOf_is_err (sb eb : Bound) (len : Nat) : ∃ a b k, sliceErrOf sb eb len = .sliceErr a b k := by
  unfold sliceErrOf; simp only; split
  · exact ⟨_, _, _, rfl⟩
  · split <;> exact ⟨_, _, _, rfl⟩

private theorem sliceErrOf_ne_true (sb eb : Bound) (len : Nat) : sliceErrOf sb eb len ≠ .bool true := by
  obtain ⟨a, b, k, e⟩ := sliceErrOf_is_err sb eb len
  rw [e]; nofun

/-- `try_slice` never panics, whatever the bounds (`..=usize::MAX`, `(Excluded(usize::MAX), ..)`
included: `Bound.fits` only says the numbers are `usize` values). -/
theorem try_slice_never_panics (cfg : Cfg) (s : State) (h d : Nat) (sb eb : Bound) (v : List UInt8) (w : Wf cfg s)
    (hg : sget (abs s) h = some v) (hf : slotFree s d = true)
    (hs : Bound.fits sb) (he : Bound.fits eb) (hl : v.length ≤ isizeMax) :
    (step cfg s (.trySlice h d sb eb)).2.ret ≠ .panic := by
  have := congrArg Prod.snd (try_slice_spec cfg s h d sb eb v w hg hf hs he hl)
  simp only at this
  intro hp
  rw [hp] at this
  cases hget : stdGet sb eb v.length with
  | some ab => rw [hget] at this; cases this
  | none =>
    obtain ⟨a, b, k, e⟩ := sliceErrOf_is_err sb eb v.length
    rw [hget, e] at this
    cases this

/-- `slice` panics exactly when `try_slice` errs (and both exactly when std's `get` fails). -/
theorem slice_panics_iff_try_slice_errs (cfg : Cfg) (s : State) (h d : Nat) (sb eb : Bound) (v : List UInt8)
    (w : Wf cfg s) (hg : sget (abs s) h = some v) (hf : slotFree s d = true)
    (hs : Bound.fits sb) (he : Bound.fits eb) (hl : v.length ≤ isizeMax) :
    ((step cfg s (.slice h d sb eb)).2.ret = .panic ↔ (step cfg s (.trySlice h d sb eb)).2.ret ≠ .bool true) ∧
    ((step cfg s (.slice h d sb eb)).2.ret = .panic ↔ stdGet sb eb v.length = none) := by
  have h1 := congrArg Prod.snd (slice_spec cfg s h d sb eb v w hg hf hs he hl)
  have h2 := congrArg Prod.snd (try_slice_spec cfg s h d sb eb v w hg hf hs he hl)
  simp only at h1 h2
  have e1 : (step cfg s (.slice h d sb eb)).2.ret = .panic ↔
      eraseRet (step cfg s (.slice h d sb eb)).2.ret = .panic := (eraseRet_eq_panic _).symm
  have e2 : (step cfg s (.trySlice h d sb eb)).2.ret ≠ .bool true ↔
      eraseRet (step cfg s (.trySlice h d sb eb)).2.ret ≠ .bool true := not_congr (eraseRet_eq_true _).symm
  rw [e1, e2, h1, h2]
  cases hget : stdGet sb eb v.length with
  | some ab => simp
  | none => simp [sliceErrOf_ne_true]

/-- An accepted range yields exactly the bytes std yields, and the range is the one asked for:
`a`/`b` are the mathematical start and one-past-the-end of the bounds (no wrap-around). -/
theorem try_slice_ok_content (cfg : Cfg) (s : State) (h d : Nat) (sb eb : Bound) (v : List UInt8) (w : Wf cfg s)
    (hg : sget (abs s) h = some v) (hf : slotFree s d = true)
    (hs : Bound.fits sb) (he : Bound.fits eb) (hl : v.length ≤ isizeMax)
    (hok : (step cfg s (.trySlice h d sb eb)).2.ret = .bool true) :
    startIdx sb ≤ endIdx v.length eb ∧ endIdx v.length eb ≤ v.length ∧
    sget (abs (step cfg s (.trySlice h d sb eb)).1) d =
      some ((v.drop (startIdx sb)).take (endIdx v.length eb - startIdx sb)) := by
  have hsp := try_slice_spec cfg s h d sb eb v w hg hf hs he hl
  cases hget : stdGet sb eb v.length with
  | none =>
    rw [hget] at hsp
    have h2 := congrArg Prod.snd hsp
    simp only at h2
    rw [hok] at h2
    exact absurd h2.symm (sliceErrOf_ne_true sb eb v.length)
  | some ab =>
    obtain ⟨a, b⟩ := ab
    obtain ⟨rfl, rfl, hab, hb⟩ := (stdGet_some_iff sb eb v.length a b).mp hget
    rw [hget] at hsp
    have h1 : abs (step cfg s (.trySlice h d sb eb)).1 = _ := congrArg Prod.fst hsp
    rw [h1]
    exact ⟨hab, hb, sget_set_free (by rw [sfree_abs]; exact hf) _⟩

/-- Every other value (the source included) reads the same bytes after `try_slice`, accepted or not. -/
theorem try_slice_frame (cfg : Cfg) (s : State) (h d k : Nat) (sb eb : Bound) (v : List UInt8) (w : Wf cfg s)
    (hg : sget (abs s) h = some v) (hf : slotFree s d = true)
    (hs : Bound.fits sb) (he : Bound.fits eb) (hl : v.length ≤ isizeMax) (hk : k ≠ d) :
    sget (abs (step cfg s (.trySlice h d sb eb)).1) k = sget (abs s) k :=
  step_frame cfg s (.trySlice h d sb eb) k w ⟨hs, he, fun hd hgh => hlen_of_sget w hg hgh ▸ hl⟩
    (by simp [writes, hk])

/-- `inside relNeg rel plen len`: a probe slice of `plen` bytes starting `rel` bytes after
(`relNeg = false`) or before (`relNeg = true`) the first byte of a value of `len` bytes lies
address-wise inside the value. -/
def inside (relNeg : Bool) (rel plen len : Nat) : Bool :=
  (!relNeg || rel == 0) && decide (rel + plen ≤ len)

/-- `try_slice_ref` accepts EXACTLY the probes lying address-wise inside the value — adjacent-before,
adjacent-after, straddling and foreign probes are refused, an empty probe at either end is accepted —
and returns exactly that sub-range; a refusal changes no value.  (Hypotheses: the probe and the value
are Rust slices — at most `isize::MAX` long, not wrapping the address space.) -/
theorem try_slice_ref_spec (cfg : Cfg) (s : State) (h d : Nat) (relNeg : Bool) (rel plen : Nat) (v : List UInt8)
    (w : Wf cfg s) (hg : sget (abs s) h = some v) (hf : slotFree s d = true)
    (hp : plen ≤ isizeMax) (ha : 2 * rel + 1 + plen < U) (hl : v.length ≤ isizeMax) (hb : rel + 1 + v.length < U) :
    (abs (step cfg s (.trySliceRef h d relNeg rel plen)).1,
        eraseRet (step cfg s (.trySliceRef h d relNeg rel plen)).2.ret) =
      if inside relNeg rel plen v.length then ((abs s).set d (some ((v.drop rel).take plen)), .bool true)
      else (abs s, .bool false) := by
  rw [← refines cfg s (.trySliceRef h d relNeg rel plen) w ⟨hp, ha, fun hd hgh => hlen_of_sget w hg hgh ▸ ⟨hl, hb⟩⟩]
  simp only [spec_trySliceRef, sOnSlot, hg, sfree_abs, hf, if_true, inside]
  by_cases hc : ((!relNeg || rel == 0) && decide (rel + plen ≤ v.length)) = true
  · simp only [hc, if_true]
  · simp only [hc]

/-- `slice_ref` returns the same sub-range and panics exactly when `try_slice_ref` refuses. -/
theorem slice_ref_spec (cfg : Cfg) (s : State) (h d : Nat) (relNeg : Bool) (rel plen : Nat) (v : List UInt8)
    (w : Wf cfg s) (hg : sget (abs s) h = some v) (hf : slotFree s d = true)
    (hp : plen ≤ isizeMax) (ha : 2 * rel + 1 + plen < U) (hl : v.length ≤ isizeMax) (hb : rel + 1 + v.length < U) :
    (abs (step cfg s (.sliceRef h d relNeg rel plen)).1,
        eraseRet (step cfg s (.sliceRef h d relNeg rel plen)).2.ret) =
      if inside relNeg rel plen v.length then ((abs s).set d (some ((v.drop rel).take plen)), .unit)
      else (abs s, .panic) := by
  rw [← refines cfg s (.sliceRef h d relNeg rel plen) w ⟨hp, ha, fun hd hgh => hlen_of_sget w hg hgh ▸ ⟨hl, hb⟩⟩]
  simp only [spec_sliceRef, sOnSlot, hg, sfree_abs, hf, if_true, inside]
  by_cases hc : ((!relNeg || rel == 0) && decide (rel + plen ≤ v.length)) = true
  · simp only [hc, if_true]
  · simp only [hc]

/-- the boundary probes the property names, on a 5-byte value -/
example : inside false 5 0 5 = true ∧ inside false 0 0 5 = true ∧   -- empty at either end: accepted
    inside false 5 1 5 = false ∧                                    -- adjacent after
    inside true 1 1 5 = false ∧                                     -- adjacent before
    inside true 1 3 5 = false ∧ inside false 3 3 5 = false ∧        -- straddling either end
    inside false 1 3 5 = true := by decide

/-! Non-vacuity: the boundary cases the property names.  On a 5-byte value `..=usize::MAX` and
`(Excluded(usize::MAX), ..)` are rejected (not `Ok(empty)` / `Ok(whole)`), `1..=3` is accepted. -/

example : stdGet .unbounded (.included (U - 1)) 5 = none := by simp [stdGet, startIdx, endIdx, U]
example : stdGet (.excluded (U - 1)) .unbounded 5 = none := by simp [stdGet, startIdx, endIdx, U]
example : stdGet (.included 1) (.included 3) 5 = some (1, 4) := by simp [stdGet, startIdx, endIdx]
example : Bound.fits (.included (U - 1)) ∧ Bound.fits (.excluded (U - 1)) := by simp [Bound.fits, U]

end HipVerif.Props.C08
