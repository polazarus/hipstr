/-
C01 — Content always equals the std model across all operation histories.

`Core.step` (Model/Core.lean) mirrors the code of `HipByt` (and, through the repr(transparent)
wrappers, `HipStr`/`HipOsStr`/`HipPath`) branch by branch; `Spec.Std.step` (Spec/Std.lean) is the
std-side specification on plain byte lists; `abs` reads every handle back.  The tie of both to
the real crate and to real std is the `coredrive` correspondence run.
-/
import HipVerif.Lemmas.CoreRun
import HipVerif.Lemmas.CoreReprFacts
import HipVerif.Audit.Reexport
import HipVerif.Gen.FmtDelegates
import HipVerif.Lemmas.CoreStrRefine

namespace HipVerif.Props.C01
open HipVerif.Core HipVerif.Spec.Std

/-- The initial state (any caller memory, any number of empty slots) satisfies the invariant. -/
theorem init_wf (cfg : Cfg) (srcs : List (List UInt8)) (n : Nat) : Wf cfg (init srcs n) :=
  wf_init cfg srcs n

/-- One step: for every backend, every ceiling, debug assertions on or off, every operation on a
well-formed state yields exactly the contents and the returned value the std-side specification
yields (the specification being told only the representation-dependent answers: whether mutable
access / ownership of the buffer was granted). -/
theorem step_refines (cfg : Cfg) (s : State) (op : Op) (w : Wf cfg s) (hok : OpOk s op) :
    Spec.Std.step cfg.icap s.srcs (abs s) op (retFlag (step cfg s op).2.ret) =
      (abs (step cfg s op).1, eraseRet (step cfg s op).2.ret) :=
  refines cfg s op w hok

/-- Every finite history, from the initial state: at the end every live value reads back what
the same history yields on the std owned type, and every returned item along the way was equal. -/
theorem run_refines (cfg : Cfg) (srcs : List (List UInt8)) (n : Nat) (ops : List Op)
    (hok : AllOk cfg (init srcs n) ops) :
    specRun cfg.icap srcs (abs (init srcs n))
        (ops.zip ((run cfg (init srcs n) ops).2.map (fun o => retFlag o.ret))) =
      (abs (run cfg (init srcs n) ops).1, (run cfg (init srcs n) ops).2.map (fun o => eraseRet o.ret)) :=
  Core.run_refines cfg ops (init srcs n) (wf_init cfg srcs n) hok

/-- …and from any reachable (well-formed) state. -/
theorem run_refines_from (cfg : Cfg) (s : State) (w : Wf cfg s) (ops : List Op) (hok : AllOk cfg s ops) :
    specRun cfg.icap s.srcs (abs s) (ops.zip ((run cfg s ops).2.map (fun o => retFlag o.ret))) =
      (abs (run cfg s ops).1, (run cfg s ops).2.map (fun o => eraseRet o.ret)) :=
  Core.run_refines cfg ops s w hok

/-- An operation panics exactly where the specification (std's counterpart or the documented
precondition) does. -/
theorem panic_iff (cfg : Cfg) (s : State) (op : Op) (w : Wf cfg s) (hok : OpOk s op) :
    (step cfg s op).2.ret = .panic ↔
      (Spec.Std.step cfg.icap s.srcs (abs s) op (retFlag (step cfg s op).2.ret)).2 = .panic := by
  rw [refines cfg s op w hok]
  simp only
  cases (step cfg s op).2.ret <;> simp [eraseRet]

/-- Operations behave IDENTICALLY with debug assertions on and off: from a well-formed state no
debug assertion of the model (normalisation of slice/truncate results, validity of the heap
descriptor) can fire. -/
reexport HipVerif.Core.debug_irrelevant as debug_irrelevant

/-- `Display`/`Debug` text: every formatting impl of a Hip type (REGENERATED table) is a pure
delegation to the same trait's impl of the std view of the value (`[u8]` for HipByt, `str` for HipStr,
`OsStr` for HipOsStr, `Path` for HipPath) — so text equality with the std owned type is content
equality, which `run_refines` gives. -/
theorem fmt_delegates_ok :
    ∀ r ∈ Gen.FmtDelegates.table,
      (r.ty = "HipByt" → r.accessor = "as_slice") ∧ (r.ty = "HipStr" → r.accessor = "as_str") ∧
      (r.ty = "HipOsStr" → r.accessor = "as_os_str") ∧ (r.ty = "HipPath" → r.accessor = "as_path") := by
  decide

/-- …and each type has the impls std's owned type has (Debug for all four, Display for HipStr). -/
theorem fmt_coverage :
    (Gen.FmtDelegates.table.map fun r => (r.ty, r.trait_)) =
      [("HipByt", "Debug"), ("HipStr", "Debug"), ("HipStr", "Display"), ("HipOsStr", "Debug"), ("HipPath", "Debug")] := by
  decide

/-- The invariant holds in every reachable state. -/
theorem reachable_wf (cfg : Cfg) (srcs : List (List UInt8)) (n : Nat) (ops : List Op) :
    Wf cfg (run cfg (init srcs n) ops).1 :=
  wf_run cfg ops _ (wf_init cfg srcs n)

/-- Nothing ever writes through a borrow: caller-owned memory is untouched by every history. -/
theorem borrowed_memory_untouched (cfg : Cfg) (s : State) (ops : List Op) :
    (run cfg s ops).1.srcs = s.srcs :=
  srcs_run cfg ops s

/-! Non-vacuity: a concrete history with sharing, an offset view, an in-place append and a
conversion back to `Vec` satisfies the side conditions and runs without `bad-op`. -/

private def demoCfg : Cfg := { backend := .arc, ceil := 5, debug := true, icap := 23 }
private def demoOps : List Op :=
  [.fromSlice 0 (List.replicate 30 7), .clone 0 1, .slice 0 2 (.included 2) (.excluded 28),
   .pushSlice 1 [1, 2, 3], .drop 0, .intoVec 1]

example : AllOk demoCfg (init [] 4) demoOps := by
  simp [demoOps, AllOk, OpOk, HipVerif.Spec.Range.Bound.fits, HipVerif.RangeTy.U]
  decide

example : ((run demoCfg (init [] 4) demoOps).2.map (fun o => o.ret)).all (· != .badOp) = true := by
  decide

/-! ### The `HipStr` layer refines `String` (Spec/Str.lean, Lemmas/CoreStrRefine.lean) -/

/-- One `HipStr` call: for every call a Rust program can make (`StrOk`: range bounds are `usize`s and lengths at most
`isize::MAX`) on a well-formed state holding only valid UTF-8, the API layer — the code's boundary / `from_utf8` checks
followed by the byte-level operation on the shared / offset / inline / borrowed representation — yields EXACTLY the pool
contents and the returned item `String`/`str` yield (`Spec.Str.step`): the popped scalar's bytes, the `SliceError`
payload and classification, `valid_up_to`, and a panic in the same cases. -/
reexport HipVerif.Str.strStep_refines as str_step_refines

/-- Every finite history of `HipStr` calls from the initial state: at the end every value reads back what the same
calls yield on `String`s, and every returned item along the way was equal. The side condition `AllStrOk` is about
argument TYPES only (`&str` data valid, `char`s scalar, bounds `usize`), never about char boundaries. -/
reexport HipVerif.Str.strRun_refines_init as str_run_refines

/-- …and from any well-formed state holding valid UTF-8. -/
reexport HipVerif.Str.strRun_refines as str_run_refines_from

/-- A `HipStr` call panics — in the layer's own checks or in the byte-level operation under it — exactly where the
`String` specification of that call panics. -/
reexport HipVerif.Str.str_panic_iff as str_panic_iff

/-- non-vacuity: a 10-call history (ill-formed `from_utf8`, off-boundary `try_slice`/`truncate`, `pop`, `push`, `slice`,
`clone`) satisfies the side conditions, and model and specification compute the same explicit result -/
reexport HipVerif.Str.Example.ops_ok as str_example_ok
reexport HipVerif.Str.Example.model_result as str_example_model
reexport HipVerif.Str.Example.spec_result as str_example_spec

end HipVerif.Props.C01
