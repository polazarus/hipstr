/-
C10, the `repeat` clause — `repeat(n)` equals std's `[u8]::repeat(n)` / `str::repeat(n)`, panics
exactly when std does, and exposes only bytes of the value it repeats.

`repeat` is an operation of the Core state machine (`Model/Core.lean`, tied to the real crate by
`coredrive` after every step); the theorems below specialise the C01 refinement to it, so that the
clause is stated — and audited — under C10 as well.
-/
import HipVerif.Lemmas.SpecFrame
import HipVerif.Audit.Reexport

namespace HipVerif.Props.C10
open HipVerif.Core HipVerif.Spec.Std HipVerif.RangeTy

/-- std's `repeat` on byte lists: `n` copies, panicking ("capacity overflow") when the product
reaches `isize::MAX + 1` — except that hipstr's shortcuts (empty value, `n = 1`) never multiply. -/
def stdRepeat (v : List UInt8) (n : Nat) : Option (List UInt8) :=
  if v.length = 0 ∨ n = 1 ∨ v.length * n < U / 2 then some (List.replicate n v).flatten else none

/-- In EVERY well-formed state (any representation of the source: inline, borrowed, shared or
unique heap, any backend, any ceiling), `repeat` into a free slot either stores exactly std's
`n`-fold repetition in the destination and leaves every other handle's content alone, or — exactly
when std's `repeat` panics with a capacity overflow — panics and changes no content at all. -/
theorem repeat_spec (cfg : Cfg) (s : State) (h d n : Nat) (v : List UInt8) (w : Wf cfg s)
    (hg : sget (abs s) h = some v) (hf : slotFree s d = true) :
    (abs (step cfg s (.repeat h d n)).1, eraseRet (step cfg s (.repeat h d n)).2.ret) =
      match stdRepeat v n with
      | some r => ((abs s).set d (some r), .unit)
      | none => (abs s, .panic) := by
  rw [← refines cfg s (.repeat h d n) w trivial]
  simp only [spec_repeat, sOnSlot, hg, sfree_abs, hf, if_true, stdRepeat]
  by_cases h0 : v.length = 0
  · have : v = [] := List.eq_nil_of_length_eq_zero h0
    subst this; simp
  · by_cases h1 : n = 1
    · subst h1; simp
    · simp only [h0, h1, false_or, Bool.false_or, decide_false, Bool.false_eq_true, if_false]
      by_cases hc : v.length * n < U / 2
      · simp only [hc, if_true]
      · simp only [hc, if_false]

/-- No byte of the result is foreign: every byte of `repeat`'s value is a byte of the repeated
value, and the length is exactly `len * n`. -/
theorem repeat_bytes_supplied (v : List UInt8) (n : Nat) :
    (∀ b ∈ (List.replicate n v).flatten, b ∈ v) ∧ (List.replicate n v).flatten.length = n * v.length := by
  constructor
  · intro b hb
    simp only [List.mem_flatten, List.mem_replicate] at hb
    obtain ⟨l, ⟨_, rfl⟩, hb⟩ := hb
    exact hb
  · simp

/-- `repeat` panics exactly when the two shortcuts do not apply and the product is at least
`isize::MAX + 1 = 2^63` — in particular whenever `len * n` does not fit a `usize` (no wrapped
product is ever used as a length). -/
theorem repeat_panics_iff (v : List UInt8) (n : Nat) :
    stdRepeat v n = none ↔ v.length ≠ 0 ∧ n ≠ 1 ∧ U / 2 ≤ v.length * n := by
  unfold stdRepeat
  constructor
  · intro h
    split at h
    · cases h
    · rename_i hc
      simp only [not_or, Nat.not_lt] at hc
      exact hc
  · rintro ⟨a, b, c⟩
    have : ¬ (v.length = 0 ∨ n = 1 ∨ v.length * n < U / 2) := by
      simp only [not_or, Nat.not_lt]; exact ⟨a, b, c⟩
    rw [if_neg this]

/-- The source (and every handle other than the destination) reads the same bytes afterwards. -/
theorem repeat_frame (cfg : Cfg) (s : State) (h d n k : Nat) (v : List UInt8) (w : Wf cfg s)
    (hg : sget (abs s) h = some v) (hf : slotFree s d = true) (hk : k ≠ d) :
    sget (abs (step cfg s (.repeat h d n)).1) k = sget (abs s) k :=
  step_frame cfg s (.repeat h d n) k w trivial (by simp [writes, hk])

/-- The destination then holds exactly the repetition. -/
theorem repeat_result (cfg : Cfg) (s : State) (h d n : Nat) (v r : List UInt8) (w : Wf cfg s)
    (hg : sget (abs s) h = some v) (hf : slotFree s d = true) (hr : stdRepeat v n = some r) :
    sget (abs (step cfg s (.repeat h d n)).1) d = some r := by
  have := congrArg Prod.fst (repeat_spec cfg s h d n v w hg hf)
  simp only [hr] at this
  rw [this]
  exact sget_set_free (by rw [sfree_abs]; exact hf) _

/-- "…in normalised representation": `repeat` keeps the representation contract — every value that
does not descend from `with_capacity` (the result included: it is built untainted unless it is the
`n = 1` / empty shortcut's clone of the source) is inline exactly when it fits the inline capacity. -/
reexport HipVerif.Core.norm_op_repeat as repeat_keeps_normalised

/-- …and the invariant of reachable states (counts, liveness, distinct buffers) is preserved. -/
reexport HipVerif.Core.wf_op_repeat as repeat_keeps_wf

/-! Non-vacuity: a 12-byte heap-free value repeated 3 times is a 36-byte heap value equal to std's;
a product of exactly 2^63 panics; a wrapped product (2^32 · 2^32 ≡ 0) panics rather than yielding
an empty value. -/

private def c : Cfg := { backend := .arc, ceil := 5, debug := true, icap := 23 }
example : sget (abs (run c (init [] 3) [.fromSlice 0 [1, 2], .repeat 0 1 3]).1) 1 = some [1, 2, 1, 2, 1, 2] := by
  decide
/-- 24 bytes from 3 × 8: one more than the inline capacity, so the result is a fresh heap value -/
example : ((getH (run c (init [] 3) [.fromSlice 0 (List.replicate 8 7), .repeat 0 1 3]).1 1).map (·.repr)) =
    some (.heap 0 1 0 24) := by decide
example : stdRepeat [1, 2] 3 = some [1, 2, 1, 2, 1, 2] := by
  have : (6 : Nat) < U / 2 := by simp [U]
  simp [stdRepeat, this]
example : (stdRepeat [1, 2] (U / 4) = none) := by
  rw [repeat_panics_iff]; refine ⟨by decide, by simp [U], ?_⟩; simp [U]
example : (stdRepeat (List.replicate 4 0) (U / 4) = none) := by
  rw [repeat_panics_iff]; refine ⟨by decide, by simp [U], ?_⟩; simp [U]

end HipVerif.Props.C10
