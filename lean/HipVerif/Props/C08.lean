/-
C08 — Range and sub-slice APIs are total and agree with std indexing.

The functions below (`Gen.Ranges.*`) are REGENERATED from /repo/src on every run by the
translator; these theorems are therefore re-checked against what the code says now.
-/
import HipVerif.Lemmas.Ranges

namespace HipVerif.Props.C08
open HipVerif.RangeTy HipVerif.Gen.Ranges HipVerif.Spec.Range

private theorem len_lt {len : Nat} (h : len ≤ isizeMax) : len < U := by
  have hU : U = 18446744073709551616 := rfl
  simp only [isizeMax] at h; omega

/-- `simplify_range_mono` (behind every `slice`/`try_slice`) never overflows, wraps or
hits undefined behaviour, for ANY bounds and length. -/
theorem simplify_total (s e : Bound) (len : Nat) :
    simplifyRangeMono s e len ≠ .overflow ∧ simplifyRangeMono s e len ≠ .ub :=
  (simplifyRangeMono_decided s e len).ne

/-- `try_slice` accepts a range exactly when std's checked indexing (`get`) does, with the
same half-open range — for all bound shapes, all bound values up to `usize::MAX`, all
lengths a slice can have. -/
theorem simplify_iff (s e : Bound) (len a b : Nat)
    (hs : Bound.fits s) (he : Bound.fits e) (hlen : len ≤ isizeMax) :
    simplifyRangeMono s e len = .ok (a, b) ↔ stdGet s e len = some (a, b) := by
  rw [simplifyRangeMono_ok_iff, stdGet_some_iff, startU_eq hs, endU_eq he (len_lt hlen)]
  -- a saturated index is above any length a slice can have
  have hU : U = 18446744073709551616 := rfl
  simp only [isizeMax] at hlen
  omega

/-- When `try_slice` rejects a range, the error names the bound that failed, in the
documented precedence (start out of bounds, then end out of bounds, then start > end), and
reports the requested bounds (an overflowing `n + 1` is reported saturated). -/
theorem simplify_err_names (s e : Bound) (len a b : Nat) (k : SliceErrorKind)
    (hs : Bound.fits s) (he : Bound.fits e) (hlen : len ≤ isizeMax)
    (h : simplifyRangeMono s e len = .err (a, b, k)) :
    a = min (startIdx s) (U - 1) ∧ b = min (endIdx len e) (U - 1) ∧
    (k = .startOutOfBounds ↔ a > len) ∧
    (k = .endOutOfBounds ↔ (a ≤ len ∧ b > len)) ∧
    (k = .startGreaterThanEnd ↔ (a ≤ len ∧ b ≤ len ∧ a > b)) := by
  rw [simplifyRangeMono_eq, startU_eq hs, endU_eq he (len_lt hlen)] at h
  split at h
  · cases h; simp only [reduceCtorEq, true_and, true_iff, false_iff]; omega
  · split at h
    · cases h; simp only [reduceCtorEq, true_and, true_iff, false_iff]; omega
    · split at h
      · cases h; simp only [reduceCtorEq, true_and, true_iff, false_iff]; omega
      · cases h

/-- `try_slice` either accepts or rejects: there is no third outcome. -/
theorem simplify_ok_or_err (s e : Bound) (len : Nat) :
    (∃ r, simplifyRangeMono s e len = .ok r) ∨ (∃ x, simplifyRangeMono s e len = .err x) :=
  simplifyRangeMono_decided s e len

/-- The vectors' range normalisation (`drain`, `try_drain`, `extend_from_within`) accepts
exactly the ranges `Vec` accepts, and never overflows. -/
theorem vec_range_iff (s e : Bound) (len a b : Nat)
    (hs : Bound.fits s) (he : Bound.fits e) (hlen : len ≤ isizeMax) :
    rangeMono s e len = .ok (a, b) ↔ vecRange s e len = some (a, b) :=
  (rangeMono_ok_iff hs he (len_lt hlen) a b).trans (vecRange_some_iff s e len a b).symm

/-- … and it is total. -/
theorem vec_range_total (s e : Bound) (len : Nat) :
    rangeMono s e len ≠ .overflow ∧ rangeMono s e len ≠ .ub :=
  (rangeMono_decided s e len).ne

/-- `try_slice_ref` accepts exactly the slices lying address-wise inside the value and
returns that sub-range; it never overflows or invokes undefined behaviour. -/
theorem range_of_iff (whole slice : Slice) (o e : Nat)
    (hw : whole.ptr + whole.len < U) (hsl : slice.ptr + slice.len < U)
    (hwl : whole.len ≤ isizeMax) (hsll : slice.len ≤ isizeMax) :
    tryRangeOf whole slice = .ok (some (o, e)) ↔
      (whole.ptr ≤ slice.ptr ∧ slice.ptr + slice.len ≤ whole.ptr + whole.len ∧
        o = slice.ptr - whole.ptr ∧ e = o + slice.len) := by
  rw [tryRangeOf_some_iff]
  omega

/-- `try_slice_ref` is total: `Some` or `None`, nothing else. -/
theorem range_of_total (whole slice : Slice)
    (hw : whole.ptr + whole.len < U) (hsl : slice.ptr + slice.len < U)
    (hwl : whole.len ≤ isizeMax) (hsll : slice.len ≤ isizeMax) :
    ∃ r, tryRangeOf whole slice = .ok r := by
  rw [tryRangeOf_eq]
  split
  · exact ⟨_, rfl⟩
  · rw [if_pos (by omega)]
    split <;> exact ⟨_, rfl⟩

/-! Non-vacuity: the hypotheses are met by ordinary inputs, and the boundary case the
unit tests never sample (`..=usize::MAX`) is rejected as an end-out-of-bounds error. -/

example : Bound.fits (.included (U - 1)) := by
  show U - 1 < U
  decide

example : (5 : Nat) ≤ isizeMax := by decide

example : simplifyRangeMono .unbounded (.included (U - 1)) 5 = .err (0, U - 1, .endOutOfBounds) := by
  decide

example : simplifyRangeMono (.excluded (U - 1)) .unbounded 5 = .err (U - 1, 5, .startOutOfBounds) := by
  decide

example : tryRangeOf ⟨1000, 10⟩ ⟨1003, 4⟩ = .ok (some (3, 7)) := by decide
example : tryRangeOf ⟨1000, 10⟩ ⟨1008, 4⟩ = .ok none := by decide

end HipVerif.Props.C08
