/-
C15 — Containers stay sound when user code panics mid-operation (InlineVec, ThinVec), on the L0
slot model. A fault `some k` makes the `k`-th user callback of the operation panic.
Fault points: every user call inventoried in `Model/SlotsUserCalls.lean` — `Clone::clone`,
`Drop::drop` (also of rejected values, guards and partially built vectors), the `pop_if` predicate,
the `resize_with` generator, `IntoIterator::into_iter`, `Iterator::size_hint`, `Iterator::next`
and the destructor of the caller's iterator, `P::default()` and `P::drop` of the ThinVec prefix.
Unwinding runs the modelled guards (`SliceGuard::drop`, the drop of by-value arguments and of partially
built local vectors) and leaves `Drain`'s tail behind. The theorems hold for EVERY `k`: they are
proved by induction over the loops of the operations (Lemmas/Slots*.lean), not by enumeration.
The multi-piece string construction clause of C15 is outside this file (string family).
-/
import HipVerif.Lemmas.SlotsStep
import HipVerif.Model.SlotsUserCalls
namespace HipVerif.Props.C15
open HipVerif.Slots

/-- For every operation, every state satisfying the ownership invariant and every fault position
`k`: after the run — normal return or unwinding — the ownership invariant still holds (nothing
was or will be dropped twice, nothing uninitialised was dropped or read, no write beyond the
capacity) and the container's length covers only initialised slots. Only leaks are possible. -/
theorem panic_safe {s : St} (h : Own s) (k : Nat) (op : Op) :
    Own (step (some k) op s).2 ∧ LenCoversInit (step (some k) op s).2 :=
  (run_safe h [(some k, op)]).imp_right And.left

/-- The same without a fault (the operation's own assertion panics included). -/
theorem normal_safe {s : St} (h : Own s) (op : Op) :
    Own (step none op s).2 ∧ LenCoversInit (step none op s).2 :=
  (run_safe h [(none, op)]).imp_right And.left

/-- After a panicking operation the container can still be used and dropped: any further history
(with further faults) keeps the invariant, so no later operation — including the final drop —
double-drops, drops uninitialised memory or writes out of bounds. -/
theorem usable_after {s : St} (h : Own s) (k : Nat) (op : Op) (hist : List (Option Nat × Op)) :
    Own (run hist (step (some k) op s).2) ∧ LenCoversInit (run hist (step (some k) op s).2) ∧
      ∀ e ∈ (run hist (step (some k) op s).2).mem.trace, e.bad = false :=
  run_safe (step_own (some k) op h) hist

/-- The operations named in the property (resize, extend_from_within, extend, insert, truncate,
a drain's drop — after any script of pulls `next`/`next_back`/`nth`/`nth_back` and any way of
consuming the drain: `last`, `count`, `fold`, `rfold`, plain drop, `mem::forget` —, clone /
from_slice_clone) on both vector kinds, for every fault position: the
vector's length never covers an uninitialised slot afterwards. -/
theorem len_covers_init_named {s : St} (h : Own s) (k : Nat) (n a b : Nat)
    (script : List IStep) (fin : IFin) :
    LenCoversInit (step (some k) (.resize n) s).2 ∧
    LenCoversInit (step (some k) (.extWithin a b) s).2 ∧
    LenCoversInit (step (some k) (.extIter a n) s).2 ∧
    LenCoversInit (step (some k) (.extSlice n) s).2 ∧
    LenCoversInit (step (some k) (.insert a) s).2 ∧
    LenCoversInit (step (some k) (.truncate n) s).2 ∧
    LenCoversInit (step (some k) (.drain a b script fin) s).2 ∧
    LenCoversInit (step (some k) .clone s).2 :=
  ⟨(panic_safe h k _).2, (panic_safe h k _).2, (panic_safe h k _).2, (panic_safe h k _).2,
    (panic_safe h k _).2, (panic_safe h k _).2, (panic_safe h k _).2, (panic_safe h k _).2⟩

/-- Even across faults every id is the subject of at most one drop-or-return event. -/
theorem at_most_once_after_faults {s : St} (h : Own s) (hist : List (Option Nat × Op)) (a : Nat) :
    ((run hist s).mem.trace.filterMap Ev.outId).count a ≤ 1 := by
  obtain ⟨_, _, ha⟩ := (run_own hist s h).elim
  exact ha.count_out_le_one a

/-- `ThinVec::resize(4, v)` on a 1-element vector, second clone panics: one clone stored, the
value and nothing else dropped by the unwinding, `len = 2` -/
example :
    let s := run [(none, .push)] (initThin 8 true)
    (step (some 1) (.resize 4) s).1 = .panic ∧ (step (some 1) (.resize 4) s).2.v.len = 2 ∧
      (step (some 1) (.resize 4) s).2.mem.trace.take 2 = [.drop 2, .clone 2 3] := by decide

example : Own (step (some 1) (.resize 4) (run [(none, .push)] (initThin 8 true))).2 :=
  (panic_safe (run_own _ _ (own_initThin 8 true (by decide))) 1 _).1

/-- `extend_from_slice` on a ThinVec, third clone panics: the `SliceGuard` drops the two clones
already written, the length is unchanged -/
example :
    let s := run [(none, .push)] (initThin 8 false)
    (step (some 2) (.extSlice 3) s).1 = .panic ∧ (step (some 2) (.extSlice 3) s).2.v.len = 1 := by
  decide

/-- a destructor panicking inside `Drain::drop`: the rest of the range is still dropped, the tail
is not moved back (leaked), the vector keeps the head only -/
example :
    let s := run [(none, .push), (none, .push), (none, .push), (none, .push)] (initInline 4)
    (step (some 0) (.drain 1 3 [] .drop) s).1 = .panic ∧
      (step (some 0) (.drain 1 3 [] .drop) s).2.v.len = 1 ∧
      (step (some 0) (.drain 1 3 [] .drop) s).2.mem.trace.take 2 = [.drop 2, .drop 1] := by decide

/-- `drain(0..3).nth(1)` whose first skipped item's destructor panics: the cursor has already
passed that item, so `Drain::drop` (run by the unwinding) drops the other two exactly once and
moves the tail back.  (An `nth` override that drops the skipped items in place before advancing
the cursor — seeded mutation C15r3-m2 — drops the first one twice here.) -/
example :
    let s := run [(none, .push), (none, .push), (none, .push), (none, .push)] (initInline 4)
    (step (some 0) (.drain 0 3 [.nth 1] .drop) s).1 = .panic ∧
      (step (some 0) (.drain 0 3 [.nth 1] .drop) s).2.v.len = 1 ∧
      (step (some 0) (.drain 0 3 [.nth 1] .drop) s).2.v.get 0 = .init 3 ∧
      (step (some 0) (.drain 0 3 [.nth 1] .drop) s).2.mem.trace.take 3 =
        [.drop 2, .drop 1, .drop 0] := by decide

/-- `drain(0..3).fold(..)` whose closure panics at its second call: the first item was kept by the
closure, the second — moved out already — is dropped by the unwinding, the third by `Drain::drop`.
(A `fold` override that advances the range only at the end — C15r3-m1 — drops the second twice.) -/
example :
    let s := run [(none, .push), (none, .push), (none, .push), (none, .push)] (initInline 4)
    (step (some 1) (.drain 0 3 [] .fold) s).1 = .panic ∧
      (step (some 1) (.drain 0 3 [] .fold) s).2.v.len = 1 ∧
      (step (some 1) (.drain 0 3 [] .fold) s).2.mem.trace.take 3 =
        [.drop 2, .drop 1, .ret 0] := by decide

/-- `into_iter().last()` whose first accumulator's destructor panics: the new accumulator is
leaked (not dropped twice), `IntoIter::drop` releases the rest; `rfold` runs from the back -/
example :
    let s := run [(none, .push), (none, .push), (none, .push)] (initInline 3)
    (step (some 0) (.intoIter [] .last) s).1 = .panic ∧
      (step (some 0) (.intoIter [] .last) s).2.mem.trace.take 2 = [.drop 2, .drop 0] ∧
      (step none (.intoIter [.nthBack 0] .last) s).2.mem.trace.take 3 =
        [.ret 1, .drop 0, .ret 2] ∧
      (step (some 1) (.intoIter [] .rfold) s).2.mem.trace.take 3 =
        [.drop 0, .drop 1, .ret 2] ∧
      (step none (.intoIter [.front] .count) s).2.mem.trace.take 3 =
        [.drop 2, .drop 1, .ret 0] := by decide

example : Own (step (some 0) (.intoIter [] .last)
    (run [(none, .push), (none, .push), (none, .push)] (initInline 3))).2 :=
  (panic_safe (run_own _ _ (own_initInline 3)) 0 _).1

/-- two more operations and the final drop after a fault: nothing is dropped twice -/
example :
    let s := run [(none, .push), (none, .push), (some 0, .clone), (none, .push), (none, .truncate 1),
      (none, .dropVec)] (initInline 3)
    ∀ e ∈ s.mem.trace, e.bad = false := by decide

/-- a panicking `pop_if` predicate: nothing has been moved yet, the vector is unchanged and no
destructor runs (the seeded mutation C15-m4 reads the element out before the call and breaks
exactly this) -/
example :
    let s := run [(none, .push), (none, .push)] (initInline 3)
    (step (some 0) (.popIf true) s).1 = .panic ∧ (step (some 0) (.popIf true) s).2.v.len = 2 ∧
      (step (some 0) (.popIf true) s).2.mem.trace = s.mem.trace ∧
      (step none (.popIf true) s).1 = .some 1 ∧ (step none (.popIf false) s).1 = .none := by decide

/-- `ThinVec::from_iter` whose third `next` panics: the two items already stored in the new vector,
its prefix and its buffer are released by the unwinding; the operand is untouched -/
example :
    let s := run [(none, .push)] (initThin 8 true)
    (step (some 5) (.fromIter 1 3) s).1 = .panic ∧
      (step (some 5) (.fromIter 1 3) s).2.mem.bufs = s.mem.bufs ∧
      (step (some 5) (.fromIter 1 3) s).2.mem.trace.take 4 = [.freeBuf 1, .drop 2, .drop 4, .drop 3]
    := by decide

/-- a panicking `size_hint` / `into_iter` of the caller's iterator: nothing happened yet -/
example :
    let s := run [(none, .push)] (initThin 8 true)
    (step (some 0) (.extIter 1 2) s).1 = .panic ∧ (step (some 1) (.extIter 1 2) s).1 = .panic ∧
      (step (some 1) (.extIter 1 2) s).2.v.len = 1 ∧
      (step (some 1) (.extIter 1 2) s).2.mem.trace = s.mem.trace := by decide

/-! Coverage of the user-call sites: `Gen/PubFns` has no parameter types; the check is per public function of the vector modules
(see `Model/SlotsUserCalls.lean`). -/

open HipVerif.Slots.UserCalls in
#guard allClassified

open HipVerif.Slots.UserCalls in
#guard noStale

/-- the model operation in which the closure / caller's iterator of a public function runs -/
def closureOp : String → Option Op
  | "<vecs::inline::InlineVec<T, CAP, SHIFT, TAG> as Extend<T>>::extend" => some (.extIter 0 0)
  | "vecs::inline::InlineVec::pop_if" => some (.popIf true)
  | "vecs::inline::InlineVec::resize_with" => some (.resizeWith 0)
  | _ => none

open HipVerif.Slots.UserCalls in
#guard closureSites.all fun f => (closureOp f).isSome

end HipVerif.Props.C15
