/-
C06 (signature part) — valid encodings by construction: which public functions can make a
HipStr / HipOsStr / HipPath, and from what.

Decided over `Gen/Doors.lean` (every callable function whose return type mentions one of the
three types, with the class of each input type; regenerated from /repo/src on every run).
The reviewed inputs (`lossyFns`, `uncheckedDoors`) and the row predicates are in
`Model/Doors.lean`. rustc is the oracle for the classification: `probedrive --only c06`
compiles programs that try to make a HipStr / HipOsStr / HipPath from raw bytes with the
infallible conversion traits (must be rejected) and their twins through `from_utf8`.
When a theorem breaks, `tables_driver` command `rows_c06` lists the falsifying rows.
-/
import HipVerif.Model.Doors

namespace HipVerif.Props.C06
open HipVerif.Model.Doors
open HipVerif.Gen.Doors (doors)

/- Evaluated (not kernel-checked) sanity check of the generated numeric keys. -/
#guard doorKeysOk

/-- **No safe unchecked door into `HipStr`.** Every SAFE callable function whose result contains
    a `HipStr` and that receives anything that is not UTF-8 by its type (`&[u8]`, `Vec<u8>`,
    `HipByt`, `BStr`, `&[u16]`, an OS string or path, a deserializer/reader, or any input the
    translator does not recognise) either has a fallible return TYPE (`Result`/`Option`) or is
    one of the lossy constructors; the only infallible bytes → `HipStr` function is an
    `unsafe fn` (see `unchecked_doors_listed`). That the fallible ones do examine their input —
    reject what is not UTF-8 rather than return `Ok` of it — is doordrive's check, not this
    statement's. -/
theorem str_doors_checked :
    ∀ d ∈ doors, d.producesStr = true → d.isUnsafe = false →
      (∀ c ∈ d.inputs, c = .strLike ∨ c = .scalar) ∨ d.fallible = true ∨
        d.simpleKey ∈ lossyFns := by
  have h : (doors.all strDoorOk) = true := by decide +kernel
  intro d hd hp hu
  have := (List.all_eq_true.mp h) d hd
  simp only [strDoorOk, hp, hu, Bool.not_true, Bool.false_or, Bool.or_eq_true, List.all_eq_true,
    strInputOk, beq_iff_eq, List.contains_eq_mem, decide_eq_true_eq, or_assoc] at this
  exact this

/-- **OS strings and paths are made from typed data only.** Every SAFE callable function whose
    result contains a `HipOsStr` or `HipPath` takes only str-like inputs (every `str` is a valid
    `OsStr`), os-like inputs, or content-free ones — a deserializer only with a fallible result;
    never raw bytes. So a safely obtained `HipOsStr`/`HipPath` exposes only bytes that came from
    valid `OsStr` data. -/
theorem os_doors_typed :
    ∀ d ∈ doors, (d.producesOs = true ∨ d.producesPath = true) → d.isUnsafe = false →
      ∀ c ∈ d.inputs, c = .strLike ∨ c = .osLike ∨ c = .scalar ∨
        (c = .decoder ∧ d.fallible = true) := by
  have h : (doors.all osDoorOk) = true := by decide +kernel
  intro d hd hp hu c hc
  have := (List.all_eq_true.mp h) d hd
  have hp' : (d.producesOs || d.producesPath) = true := by
    rcases hp with h1 | h1 <;> simp [h1]
  simp only [osDoorOk, hp', hu, Bool.not_true, Bool.false_or, List.all_eq_true, Bool.or_eq_true,
    Bool.and_eq_true, beq_iff_eq, or_assoc] at this
  exact this c hc

/-- **The unsafe doors are exactly the reviewed ones**: the unsafe functions that make a `HipStr`
    from non-UTF-8-typed input (or an OS string/path from raw bytes) are `from_utf8_unchecked`
    and nothing else; a new one breaks this theorem and `rows_c06` names it. -/
theorem unchecked_doors_listed : unreviewedDoors = [] ∧ staleDoors = [] := by
  decide +kernel

/-! ### Non-vacuity -/

/-- The table is inhabited, and each theorem's hypothesis is met by real rows. -/
example : doors.length > 100 ∧
    (doors.filter fun d => d.producesStr && !d.isUnsafe && !d.inputs.all strInputOk).length ≥ 10 ∧
    (doors.filter fun d => (d.producesOs || d.producesPath) && !d.isUnsafe).length ≥ 30 ∧
    (doors.filter isUncheckedDoor).length = 1 := by decide +kernel

/-- What the predicates reject: a safe infallible `From<HipByt> for HipStr`, and a safe
    `From<&[u8]> for HipOsStr`. -/
example :
    strDoorOk ⟨"<string::HipStr<'_, B> as From<HipByt<'_, B>>>::from", 1, key% "from", false,
      true, false, false, [.bytesLike], false, "", "x"⟩ = false ∧
    osDoorOk ⟨"<os_string::HipOsStr<'_, B> as From<&[u8]>>::from", 1, key% "from", false,
      false, true, false, [.bytesLike], false, "", "x"⟩ = false ∧
    osDoorOk ⟨"<os_string::HipOsStr<'_, B> as TryFrom<&[u8]>>::try_from", 1, key% "try_from", false,
      false, true, false, [.bytesLike], true, "", "x"⟩ = false := by decide

end HipVerif.Props.C06
