/-
C11 — adoption half: every piece an inherited `str` method yields is obtained by `adopt`
(`slice_ref_unchecked` of a window that std guarantees to lie inside the haystack).  These
theorems say what adoption does, for every reachable sharing situation; `Props/C11.lean`
(generated wiring table) says that every wrapper does exactly that with std's own results.
-/
import HipVerif.Lemmas.CoreRun
import HipVerif.Lemmas.SpecFrame
import HipVerif.Lemmas.CoreStep

namespace HipVerif.Props.C11
open HipVerif.Core HipVerif.Spec.Std

/-- An adopted piece reads exactly the window of the haystack, whatever the haystack's
representation (inline, borrowed, shared heap at an offset, Unique / ceiling-saturated). -/
theorem adopt_content (cfg : Cfg) (s : State) (h d off len : Nat) (hd : Handle) (w : Wf cfg s)
    (hg : getH s h = some hd) (hfree : slotFree s d = true) (hin : off + len ≤ (view s hd).length) :
    sget (abs (step cfg s (.adopt h d off len)).1) d = some (((view s hd).drop off).take len) := by
  have href := refines cfg s (.adopt h d off len) w trivial
  have hs : sget (abs s) h = some (view s hd) := by rw [sget_abs, hg]; rfl
  have hf : sfree (abs s) d = true := by rw [sfree_abs]; exact hfree
  simp only [spec_adopt, sOnSlot, hs, hf, hin, decide_true, Bool.and_self, if_true] at href
  have := congrArg Prod.fst href
  simp only at this
  rw [← this]
  exact sget_set_free hf _

/-- Adoption does not disturb any other value — in particular not the haystack. -/
theorem adopt_frame (cfg : Cfg) (s : State) (h d off len k : Nat) (w : Wf cfg s) (hk : k ≠ d) :
    sget (abs (step cfg s (.adopt h d off len)).1) k = sget (abs s) k :=
  step_frame cfg s (.adopt h d off len) k w trivial (by simp [writes, hk])

/-- A piece is self-sufficient: whatever is later done to the source (mutation, conversion, drop)
— any operation that does not write the piece's own slot — the piece still reads the same bytes. -/
theorem piece_independent (cfg : Cfg) (s : State) (op : Op) (k : Nat) (w : Wf cfg s) (hok : OpOk s op)
    (hk : k ∉ writes op) : sget (abs (step cfg s op).1) k = sget (abs s) k :=
  step_frame cfg s op k w hok hk

/-- later adoptions into other slots do not touch a piece already adopted -/
theorem adopts_frame (cfg : Cfg) (h d : Nat) :
    ∀ (ops : List (Nat × Nat × Nat)) (t : State), Wf cfg t → d ∉ ops.map (·.1) →
      sget (abs (run cfg t (ops.map fun w => Op.adopt h w.1 w.2.1 w.2.2)).1) d = sget (abs t) d := by
  intro ops
  induction ops with
  | nil => intro t _ _; rfl
  | cons o ops ih =>
    intro t wt hno
    simp only [List.map_cons, run_cons]
    have hne : d ≠ o.1 := fun he => hno (by simp [he])
    rw [ih _ (wf_step cfg t _ wt) (fun hm => hno (List.mem_cons_of_mem _ hm))]
    exact adopt_frame cfg t h o.1 o.2.1 o.2.2 d wt hne

/-- A whole iterator's worth of pieces: adopting a list of in-range windows `(slot, off, len)` one
after the other into distinct free slots yields, slot by slot, exactly those windows of the
haystack (forward, backward or mixed iteration order is just another list). -/
theorem iter_items (cfg : Cfg) (h : Nat) :
    ∀ (ws : List (Nat × Nat × Nat)) (s : State) (v : List UInt8), Wf cfg s → sget (abs s) h = some v →
      (∀ w ∈ ws, w.1 ≠ h ∧ w.2.1 + w.2.2 ≤ v.length) →
      (ws.map (·.1)).Nodup → (∀ w ∈ ws, sfree (abs s) w.1 = true) →
      ∀ w ∈ ws, sget (abs (run cfg s (ws.map fun w => Op.adopt h w.1 w.2.1 w.2.2)).1) w.1 =
        some ((v.drop w.2.1).take w.2.2) := by
  intro ws
  induction ws with
  | nil => intro s v _ _ _ _ _ w hw; cases hw
  | cons w0 ws ih =>
    intro s v wf hsrc hin hnd hfree w hw
    obtain ⟨d, off, len⟩ := w0
    simp only [List.map_cons, run_cons]
    have hw0 := hin (d, off, len) (List.mem_cons_self ..)
    have hf0 := hfree (d, off, len) (List.mem_cons_self ..)
    have hnd' := List.nodup_cons.mp hnd
    have wf1 : Wf cfg (step cfg s (.adopt h d off len)).1 := wf_step cfg s _ wf
    -- what the first adoption did, read off the specification
    have href := refines cfg s (.adopt h d off len) wf trivial
    simp only [spec_adopt, sOnSlot, hsrc, hf0, hw0.2, decide_true, Bool.and_self, if_true] at href
    have habs : abs (step cfg s (.adopt h d off len)).1 = (abs s).set d (some ((v.drop off).take len)) :=
      (congrArg Prod.fst href).symm
    rcases List.mem_cons.mp hw with rfl | hw'
    · -- the first piece: adopted now, untouched by the later adoptions
      rw [adopts_frame cfg h d ws _ wf1 hnd'.1, habs]
      exact sget_set_free hf0 _
    · have hne : w.1 ≠ d := fun he => hnd'.1 (by rw [← he]; exact List.mem_map_of_mem (f := (·.1)) hw')
      exact ih _ v wf1
        (by rw [habs, sget_set_other _ _ _ _ hw0.1]; exact hsrc)
        (fun w hw => hin w (List.mem_cons_of_mem _ hw))
        hnd'.2
        (by
          intro w hw
          have hne : d ≠ w.1 := fun he => hnd'.1 (by rw [he]; exact List.mem_map_of_mem (f := (·.1)) hw)
          have hfw := hfree w (List.mem_cons_of_mem _ hw)
          unfold sfree at hfw ⊢
          rw [habs, sget_set_other _ _ _ _ hne]
          simpa using hfw)
        w hw'

end HipVerif.Props.C11
