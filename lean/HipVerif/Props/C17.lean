/-
C17 — Safe API is sound: unchecked entry points are unsafe, borrows cannot escape.

Decided over `Gen/PubFns.lean` (every function a client crate can call, with its lifetime
skeleton, and every lifetime-manufacturing site; regenerated from /repo/src on every run).
The hand-written, REVIEWED inputs are the five lists of `Model/PubFns.lean` (`borrowViewFns`,
`mayAliasBorrow`, `neverBorrowed`, `reviewedSites`, and `copyExempt`, which is empty), next to
the Bool row predicates. rustc is the oracle for the rest: `probedrive` compiles, for every row
that must be `unsafe`, a client program calling it without `unsafe` (must be rejected, E0133)
and a corpus of borrow-escape programs with must-compile twins.
When a theorem breaks, `tables_driver` command `rows_c17` lists the falsifying rows/sites.
-/
import HipVerif.Model.PubFns
import HipVerif.Lemmas.KeyClasses

namespace HipVerif.Props.C17
open HipVerif.Model.PubFns HipVerif.Classes
open HipVerif.Gen.PubFns (pubFns chunks sites)

/- Evaluated (not kernel-checked) sanity check: every generated numeric key is the key of the
   string printed next to it. -/
#guard generatedKeysOk

/-! ### Theorems -/

private theorem all_chunks {p : FnSig → Bool} (h : (chunks.all fun c => c.all p) = true) :
    ∀ f ∈ pubFns, p f = true := by
  intro f hf
  obtain ⟨c, hc, hfc⟩ := List.mem_flatten.mp hf
  exact (List.all_eq_true.mp ((List.all_eq_true.mp h) c hc)) f hfc

/-- **Every unchecked entry point is unsafe.** Of all functions a client can call (inherent
    methods of public types, public trait methods, trait impls, free functions, macro-generated
    methods), any whose name ends in `_unchecked` or whose documentation has a `# Safety`
    section is declared `unsafe fn`: safe code cannot reach a primitive that trusts its caller. -/
theorem unchecked_is_unsafe :
    ∀ f ∈ pubFns, (f.nameUnchecked = true ∨ f.hasSafetyDoc = true) → f.isUnsafe = true := by
  have h : (chunks.all fun c => c.all uncheckedOk) = true := by decide +kernel
  intro f hf hu
  have hu' : (f.nameUnchecked || f.hasSafetyDoc) = true := by simpa using hu
  simpa [uncheckedOk, hu'] using all_chunks h f hf

/-- **A safe function may not be a mere forwarder to an unsafe one.** Every callable function
    whose body does nothing but pass its own (non-`self`) parameters, unvalidated, to a single
    callee in unsafe context is itself declared `unsafe fn` — so an `unsafe` keyword dropped from
    a forwarding trait method, impl or macro arm (`MutVector::set_len`) breaks this theorem even
    though the name has no `_unchecked` suffix and no `# Safety` section. -/
theorem forwarders_are_unsafe :
    ∀ f ∈ pubFns, f.forwardsToUnsafe.isSome = true → f.isUnsafe = true := by
  have h : (chunks.all fun c => c.all forwarderOk) = true := by decide +kernel
  intro f hf hu
  have := all_chunks h f hf
  rw [forwarderOk, ← Option.not_isSome, hu] at this
  exact this

/-- The evaluation shared by `bitwise_copy_requires_copy` and its non-vacuity example: the rows
    matched by `needsCopy` are selected once (the selection is what is dear: key arithmetic on
    every row); each passes the row predicate, and there are 8 of them. -/
private theorem bitwise_copy_requires_copy_rows :
    ((pubFns.filter needsCopy).all bitwiseCopyOk) = true ∧
    (pubFns.filter needsCopy).length = 8 := by decide +kernel

/-- **Bitwise copies require `T: Copy`.** Every callable fn (safe or unsafe) of the vector types
    that announces a bitwise copy by its name (`copy`, `…_copy…` under `vecs::`) or whose body
    duplicates element bits from a source that stays alive (`&self` / `&[T]`) into owned elements
    with a raw-copy primitive — directly or through the same-type / free crate fns it calls — has
    the bound `T: Copy` in force (on the fn or on its impl block) for its element type. So
    `InlineVec::<String, N>::from_slice_copy(&[s])` cannot compile in client code: duplicating
    the bits of a non-`Copy` value would create a second owner. No exemption is needed on the
    current source (`copyExempt = []`). -/
theorem bitwise_copy_requires_copy :
    ∀ f ∈ pubFns, needsCopy f = true → f.key ∉ copyExempt →
      f.elemParam ≠ 0 ∧ (f.elemParam, key% "Copy") ∈ f.bounds := by
  intro f hf hn he
  have := List.all_eq_true.mp bitwise_copy_requires_copy_rows.1 f
    (List.mem_filter.mpr ⟨hf, hn⟩)
  simp only [bitwiseCopyOk, hn, Bool.not_true, Bool.false_or, Bool.or_eq_true, Bool.and_eq_true,
    bne_iff_ne, ne_eq, List.contains_eq_mem, decide_eq_true_eq] at this
  exact this.resolve_right he

/-- Translator cross-check: the `nameUnchecked` flag of every row is recomputed in Lean from
    the row's name. -/
theorem name_unchecked_consistent :
    ∀ f ∈ pubFns, f.nameUnchecked = keyEndsWith f.simpleKey (key% "_unchecked") := by
  have h : (chunks.all fun c => c.all nameFlagOk) = true := by decide +kernel
  intro f hf
  have := all_chunks h f hf
  simp only [nameFlagOk, Bool.and_eq_true, beq_iff_eq] at this
  exact this.1

/-- **Signatures do not let borrowed data escape.** For every safe callable function that
    receives anything region-carrying, each region of its result (a reference, the `'borrow` of
    a Hip value, a lifetime parameter of a guard/error/iterator) is the region of one of its
    inputs or outlived by one through a declared bound (`'de: 'a`); a returned reference is
    tied to the `&self` borrow, not to the Hip `'borrow`, except for the borrowed-view
    functions. The only exceptions are the reviewed `neverBorrowed` rows (copies), none of which
    is a may-alias operation. Rust's type soundness then gives "cannot outlive that borrow". -/
theorem region_flow :
    ∀ f ∈ pubFns, f.isUnsafe = false → f.ins ≠ [] →
      (∀ o ∈ f.outs, tied f o = true) ∨
      (f.key ∈ neverBorrowed ∧ f.simpleKey ∉ mayAliasBorrow) := by
  have h : (chunks.all fun c => c.all flowOk) = true := by decide +kernel
  intro f hf hs hi
  have := all_chunks h f hf
  simp only [flowOk, hs, Bool.false_or, Bool.or_eq_true, List.isEmpty_iff, hi, false_or,
    Bool.and_eq_true, List.all_eq_true, List.contains_eq_mem, decide_eq_true_eq,
    Bool.not_eq_true', decide_eq_false_iff_not] at this
  exact this

/-- Every `X_unchecked` function has a safe sibling `X` or `try_X` on the same type (whose
    validation is what C08 `simplify_iff`/`range_of_iff`, C06 `reject_unchanged` and the
    capacity checks of C07/C13 are about). -/
theorem safe_counterpart :
    ∀ f ∈ pubFns, f.nameUnchecked = true →
      ∃ g ∈ pubFns, g.isUnsafe = false ∧ g.ownerKey = f.ownerKey ∧
        (g.simpleKey = baseKey f ∨ g.simpleKey = keyAppend (key% "try_") (baseKey f)) := by
  have h : (chunks.all fun c => c.all (counterpartOk pubFns)) = true := by decide +kernel
  intro f hf hu
  have := all_chunks h f hf
  simp only [counterpartOk, hu, Bool.not_true, Bool.false_or, List.any_eq_true, Bool.and_eq_true,
    Bool.not_eq_true', beq_iff_eq, Bool.or_eq_true, and_assoc] at this
  exact this

/-- **No unreviewed lifetime-manufacturing site.** The generated list of `transmute`,
    `from_raw_parts(_mut)`, `&*ptr`, pointer `as_ref/as_mut` and `*_extended` call sites of the
    whole compiled source and the reviewed list have the same keys (kind × enclosing fn ×
    unsafe?) — neither has a key the other lacks — and the same length. A new site — e.g. a safe `fn as_static(&self) -> &'static [u8]` built on
    `transmute` — breaks this theorem and `rows_c17` names it with its `file:line`. -/
theorem unsafe_lifetime_sites :
    unreviewedSites = [] ∧ staleSites = [] ∧ sites.length = reviewedSites.length := by
  decide +kernel

/-! ### Non-vacuity -/

/-- The table is large and the hypothesis of `unchecked_is_unsafe` is met by real rows. -/
example : pubFns.length > 400 ∧
    (pubFns.filter fun f => f.nameUnchecked || f.hasSafetyDoc).length ≥ 15 := by decide +kernel

/-- The defect fixed in /repo (D13) is what the predicate rejects: the same row, safe. -/
example : uncheckedOk ⟨"os_string::HipOsStr::slice_ref_unchecked", 0, "slice_ref_unchecked", 0, 0, .inherent,
    false, true, true, none, [], "", 0, none, false, false, [], [], [], "src/os_string.rs:661"⟩ = false := by decide

/-- `region_flow` is not vacuous: hundreds of safe rows have region-carrying inputs and outputs,
    and every may-alias name denotes at least one such row. -/
example :
    (pubFns.filter fun f => !f.isUnsafe && !f.ins.isEmpty && !f.outs.isEmpty).length > 150 ∧
    (mayAliasBorrow.all fun n => pubFns.any fun f => f.simpleKey == n && !f.outs.isEmpty) = true := by
  have h : allAny 9 id (·.simpleKey) (fun n f => f.simpleKey == n && !f.outs.isEmpty)
      mayAliasBorrow pubFns = true := by decide +kernel
  exact ⟨by decide +kernel, List.all_eq_true.mpr (allAny_sound (by decide) h)⟩

/-- What `region_flow` rejects: `as_borrowed` handing out `'static`, and `as_str` tied to the
    Hip `'borrow` instead of `&self`. -/
example :
    flowOk ⟨"string::HipStr::as_borrowed", key% "string::HipStr::as_borrowed", "as_borrowed",
      key% "as_borrowed", key% "string::HipStr", .inherent, false, false, false, none, [], "", 0, none, false, false,
      [⟨.selfRef, .elided 0⟩, ⟨.selfHip, .named (key% "'borrow")⟩], [⟨.ref, .static⟩], [], "x"⟩ = false ∧
    flowOk ⟨"string::HipStr::as_str", key% "string::HipStr::as_str", "as_str", key% "as_str",
      key% "string::HipStr", .inherent, false, false, false, none, [], "", 0, none, false, false,
      [⟨.selfRef, .elided 0⟩, ⟨.selfHip, .named (key% "'borrow")⟩],
      [⟨.ref, .named (key% "'borrow")⟩], [], "x"⟩ = false := by
  decide

/-- The forwarder rule is exercised by real rows (all `unsafe`), and rejects the seeded defect:
    `impl MutVector for Vec<T> { fn set_len(&mut self, len) { unsafe { self.set_len(len) } } }`. -/
example : (pubFns.filter fun f => f.forwardsToUnsafe.isSome).length ≥ 2 ∧
    forwarderOk ⟨"<alloc::vec::Vec<T> as MutVector>::set_len", 0, "set_len", 0, 0, .traitImpl,
      false, false, false, some "self.set_len", [], "", 0, none, false, false, [⟨.selfRef, .elided 0⟩], [], [], "x"⟩ = false := by
  decide +kernel

/-- What the generalised reference rule rejects: `Drain<'a, V>::as_slice(&self) -> &'a [T]`
    (the region of the drain's `&'a mut V` field), while the real signature (tied to `&self`)
    passes; a by-value `self` may give the region away. -/
example :
    flowOk ⟨"common::drain::Drain::as_slice", 1, "as_slice", 2, 3, .inherent, false, false, false, none, [], "", 0, none, false, false,
      [⟨.selfRef, .elided 0⟩, ⟨.selfMut, .named 7⟩], [⟨.ref, .named 7⟩], [], "x"⟩ = false ∧
    flowOk ⟨"common::drain::Drain::as_slice", 1, "as_slice", 2, 3, .inherent, false, false, false, none, [], "", 0, none, false, false,
      [⟨.selfRef, .elided 0⟩, ⟨.selfMut, .named 7⟩], [⟨.ref, .elided 0⟩], [], "x"⟩ = true ∧
    flowOk ⟨"T::into_inner", 1, "into_inner", 2, 3, .inherent, false, false, false, none, [], "", 0, none, false, false,
      [⟨.selfMut, .named 7⟩], [⟨.ref, .named 7⟩], [], "x"⟩ = true ∧
    flowOk ⟨"T::get", 1, "get", 2, 3, .inherent, false, false, false, none, [], "", 0, none, false, false,
      [⟨.selfRef, .elided 0⟩, ⟨.selfOther, .named 7⟩], [⟨.ref, .named 7⟩], [], "x"⟩ = false := by
  decide

/-- `bitwise_copy_requires_copy` is exercised by real rows (8: both vector types, safe and unsafe,
    name and body rule), and rejects the seeded defect: the same row under `T: Clone`. -/
example :
    (pubFns.filter needsCopy).length = 8 ∧ (pubFns.filter bodyDuplicates).length = 7 ∧
    (pubFns.filter fun f => f.bounds.contains (f.elemParam, key% "Copy")).length ≥ 8 ∧
    bitwiseCopyOk ⟨"vecs::inline::InlineVec::copy", key% "vecs::inline::InlineVec::copy", "copy",
      key% "copy", key% "vecs::inline::InlineVec", .inherent, false, false, false, none,
      [(key% "T", key% "Clone")], "T: Clone", key% "T", some "copy_from_nonoverlapping", true, true,
      [⟨.selfRef, .elided 0⟩], [], [], "x"⟩ = false ∧
    bitwiseCopyOk ⟨"vecs::thin::ThinVec::from_slice", key% "vecs::thin::ThinVec::from_slice", "from_slice",
      key% "from_slice", key% "vecs::thin::ThinVec", .inherent, false, false, false, none,
      [(key% "T", key% "Clone")], "T: Clone", key% "T", some "copy_from", true, true,
      [⟨.argRef, .elided 0⟩], [], [], "x"⟩ = false :=
  ⟨bitwise_copy_requires_copy_rows.2, by decide +kernel⟩

/-- The declared bound is what makes `borrow_deserialize<'de: 'a, 'a, …>` pass. -/
example :
    flowOk ⟨"bytes::serde::borrow_deserialize", key% "bytes::serde::borrow_deserialize",
      "borrow_deserialize", key% "borrow_deserialize", key% "bytes::serde", .free, false, false, false, none, [], "", 0, none, false, false,
      [⟨.argOther, .named (key% "'de")⟩], [⟨.hip, .named (key% "'a")⟩],
      [(.named (key% "'de"), .named (key% "'a"))], "x"⟩ = true ∧
    flowOk ⟨"bytes::serde::borrow_deserialize", key% "bytes::serde::borrow_deserialize",
      "borrow_deserialize", key% "borrow_deserialize", key% "bytes::serde", .free, false, false, false, none, [], "", 0, none, false, false,
      [⟨.argOther, .named (key% "'de")⟩], [⟨.hip, .named (key% "'a")⟩], [], "x"⟩ = false := by
  decide

/-- The reviewed exceptions are all used: each names a row with an untied output. (That none of
    them is a may-alias name is the second disjunct of `region_flow`.) -/
example : (neverBorrowed.all fun n => pubFns.any fun f => f.key == n && !f.outs.all (tied f)) = true := by
  have h : allAny 9 id (·.key) (fun n f => f.key == n && !f.outs.all (tied f))
      neverBorrowed pubFns = true := by decide +kernel
  exact List.all_eq_true.mpr (allAny_sound (by decide) h)

end HipVerif.Props.C17
