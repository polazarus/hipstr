import HipVerif.Lemmas.Views

/-!
# C12 — Eq/Ord/Hash/Borrow are mutually coherent and match the std views

Two layers.

* **Which view each impl goes through** (hipstr's choice): `Gen.CmpImpls.table` / `borrows`, regenerated
  from the source by `harness/src/extract/cmpimpls.rs`, record what every impl body literally says.
  `impl_view_ok` checks every row against the view std uses for the corresponding std pair;
  `impl_*_matches_std` turn that into statements about the values the impls return.
* **Laws of each view** (std's behaviour, modelled in `Model/Views.lean`, validated against the real
  std by `harness/src/bin/cmpdrive.rs`): `eq_iff_cmp`, `eq_hash`, `eq_symm`, `cmp_swap`, `cmp_trans`,
  `cmp_congr`, for every byte string.

Known findings (genuine defects whose only repair removes a public impl): `Borrow<OsStr> for HipPath`
(D7) and `Borrow<BStr> for HipStr` (D8). `borrow_coherent` is therefore false as stated; it is kept as
a comment, proved as `borrow_coherent_partial` over all other rows, and refuted for exactly those two
rows with concrete witnesses (`borrow_osstr_hippath_incoherent`, `borrow_bstr_hipstr_incoherent`) that
`cmpdrive` replays on the implementation.
-/

namespace HipVerif.Props.C12

open HipVerif.Views
open HipVerif.Gen.CmpImpls (table borrows)

/-- Every comparison / hash impl of the crate (all `symmetric_eq!`/`symmetric_ord!` rows in both
    operand orders, and the hand-written Hip×Hip impls, which are generic over both backends) has a
    body of the expected shape and compares through the view std uses for the corresponding std pair;
    swapped `PartialOrd` rows (and only those) reverse the helper's result. -/
theorem impl_view_ok : ∀ e ∈ table, rowOk genEnv e = true := by
  decide +kernel

/-- Every `PartialEq` impl returns exactly what std's `==` returns on the corresponding std views
    (`samePtr` = outcome of the `ptr::eq` shortcut of `HipPath == HipPath`; equal fat pointers mean
    equal bytes). -/
theorem impl_eq_matches_std (e : CmpRow) (he : e ∈ table) (htr : e.trait = .partialEq)
    (samePtr : Bool) (x y : List UInt8) (hptr : samePtr = true → x = y) :
    ∃ w, expectedView e = some w ∧ evalEq genEnv e samePtr x y = some (eqV w x y) :=
  rowOk_eq_sound genEnv e htr (impl_view_ok e he) samePtr x y hptr

/-- Every `PartialOrd` / `Ord` impl returns exactly what std's `partial_cmp` / `cmp` returns on the
    corresponding std views, in both operand orders. -/
theorem impl_cmp_matches_std (e : CmpRow) (he : e ∈ table)
    (htr : e.trait = .partialOrd ∨ e.trait = .ord) (x y : List UInt8) :
    ∃ w, expectedView e = some w ∧ evalCmp genEnv e x y = some (cmpV w x y) :=
  rowOk_cmp_sound genEnv e htr (impl_view_ok e he) x y

/-- Every `Hash` impl feeds the hasher the byte stream its std counterpart feeds
    (`HipStr` like `str`, `HipPath` like `Path`, …). -/
theorem impl_hash_matches_std (e : CmpRow) (he : e ∈ table) (htr : e.trait = .hash) (x : List UInt8) :
    ∃ v, viewOf genEnv FUEL e = some v ∧
      hashStreamV v x = hashStreamV (hashViewOf e.lhs.target) x :=
  rowOk_hash_sound genEnv e htr (impl_view_ok e he) x

/-- The hypotheses above are inhabited: the table has `PartialEq` rows with the swapped argument
    order, `PartialOrd` rows that reverse, `Ord` and `Hash` rows, and a row with a pointer shortcut. -/
example :
    (∃ e ∈ table, e.trait = .partialEq ∧ ∃ n t1 t2 o hl ml, e.body = .helper n t1 t2 o .other .self false hl ml) ∧
    (∃ e ∈ table, e.trait = .partialOrd ∧ ∃ n t1 t2 o hl ml, e.body = .helper n t1 t2 o .other .self true hl ml) ∧
    (∃ e ∈ table, e.trait = .ord) ∧ (∃ e ∈ table, e.trait = .hash) ∧
    (∃ e ∈ table, ∃ a o, e.body = .viaAccessor .ptrEqEncodedBytes a o) := by
  -- each witness is found by a sweep with a Bool test on constructors only (no row is compared with `=`)
  have h1 : table.any (fun e => match e.trait, e.body with
      | .partialEq, .helper _ _ _ _ .other .self false _ _ => true | _, _ => false) = true := by
    decide +kernel
  have h2 : table.any (fun e => match e.trait, e.body with
      | .partialOrd, .helper _ _ _ _ .other .self true _ _ => true | _, _ => false) = true := by
    decide +kernel
  have h3 : table.any (fun e => match e.body with
      | .viaAccessor .ptrEqEncodedBytes _ _ => true | _ => false) = true := by
    decide +kernel
  obtain ⟨e1, m1, p1⟩ := List.any_eq_true.mp h1
  obtain ⟨e2, m2, p2⟩ := List.any_eq_true.mp h2
  obtain ⟨e3, m3, p3⟩ := List.any_eq_true.mp h3
  refine ⟨⟨e1, m1, ?_⟩, ⟨e2, m2, ?_⟩,
    (List.any_eq_true.mp (by decide +kernel : table.any (·.trait = .ord) = true)).imp
      fun _ h => ⟨h.1, of_decide_eq_true h.2⟩,
    (List.any_eq_true.mp (by decide +kernel : table.any (·.trait = .hash) = true)).imp
      fun _ h => ⟨h.1, of_decide_eq_true h.2⟩,
    ⟨e3, m3, ?_⟩⟩
  · split at p1
    · rename_i ht hb; exact ⟨ht, _, _, _, _, _, _, hb⟩
    · cases p1
  · split at p2
    · rename_i ht hb; exact ⟨ht, _, _, _, _, _, _, hb⟩
    · cases p2
  · split at p3
    · rename_i hb; exact ⟨_, _, hb⟩
    · cases p3

/-! ## Laws of the views (every byte string) -/

/-- `a == b` iff `a.cmp(b) == Equal`, in every view (`PartialEq` and `PartialOrd`/`Ord` agree). -/
theorem eq_iff_cmp (v : View) (x y : List UInt8) : eqV v x y = true ↔ cmpV v x y = .eq :=
  eqV_iff_cmpV v x y

/-- Equal values feed equal streams to the hasher, in every view (`k1 == k2 → hash(k1) == hash(k2)`);
    for `Path` both are functions of `components`. -/
theorem eq_hash (v : View) (x y : List UInt8) : eqV v x y = true → hashStreamV v x = hashStreamV v y :=
  eqV_hash v x y

/-- `==` is symmetric in every view: the two operand orders generated by `symmetric_eq!` agree. -/
theorem eq_symm (v : View) (x y : List UInt8) : eqV v x y = eqV v y x :=
  eqV_symm v x y

/-- `b.cmp(a) == a.cmp(b).reverse()`: what `symmetric_ord!`'s `.map(Ordering::reverse)` relies on. -/
theorem cmp_swap (v : View) (x y : List UInt8) : cmpV v y x = (cmpV v x y).swap :=
  cmpV_swap v x y

/-- `<` is transitive in every view (BTreeMap's requirement). -/
theorem cmp_trans (v : View) (x y z : List UInt8) :
    cmpV v x y = .lt → cmpV v y z = .lt → cmpV v x z = .lt :=
  cmpV_trans v x y z

/-- Values that are `==` are interchangeable in `cmp` (in particular `"a/"` and `"a"` as paths). -/
theorem cmp_congr (v : View) (x x' y : List UInt8) : eqV v x x' = true → cmpV v x y = cmpV v x' y :=
  cmpV_congr v x x' y

/-- Non-vacuity of `cmp_trans` / `cmp_congr` on the path view. -/
example : cmpV .path [97] [97, 47, 97] = .lt ∧ cmpV .path [97, 47, 97] [98] = .lt ∧
    eqV .path [97, 47] [97] = true := by decide +kernel

/-- For each of the four Hip types: `==`, `partial_cmp`, `cmp` go through views that compare alike,
    and equal values hash equally (`Eq`/`Ord`/`Hash` of the type itself are mutually coherent). -/
theorem hip_eq_ord_hash_coherent (h : HipTy) :
    ∃ ve vp vo vh,
      genEnv.ownerView .partialEq h = some ve ∧ genEnv.ownerView .partialOrd h = some vp ∧
      genEnv.ownerView .ord h = some vo ∧ genEnv.ownerView .hash h = some vh ∧
      ∀ x y, (eqV ve x y = true ↔ cmpV vo x y = .eq) ∧ cmpV vp x y = cmpV vo x y ∧
        (eqV ve x y = true → hashStreamV vh x = hashStreamV vh y) := by
  -- `==` is bytewise except for `HipPath`; `partial_cmp`, `cmp`, `hash` use the std view of the type
  have ov : genEnv.ownerView .partialEq h = some (if h = .path then .path else .bytes) ∧
      genEnv.ownerView .partialOrd h = some (hashViewOf h.target) ∧
      genEnv.ownerView .ord h = some (hashViewOf h.target) ∧
      genEnv.ownerView .hash h = some (hashViewOf h.target) := by
    simp only [← ownerView_hipOnly genEnv]
    cases h <;> decide +kernel
  refine ⟨_, _, _, _, ov.1, ov.2.1, ov.2.2.1, ov.2.2.2, fun x y => ?_⟩
  cases h
  · exact ⟨eqV_iff_cmpV .bytes x y, rfl, eqV_hash .bytes x y⟩
  · exact ⟨eqV_iff_cmpV .str x y, rfl, eqV_hash .str x y⟩
  · exact ⟨eqV_iff_cmpV .osstr x y, rfl, eqV_hash .osstr x y⟩
  · exact ⟨eqV_iff_cmpV .path x y, rfl, eqV_hash .path x y⟩

/-- `HipByt::inherent_eq` (length test, pointer shortcut, `memcmp`) — statements as recorded from the
    source — is byte equality, provided two windows with the same address and length hold the same
    bytes (they are the same memory). -/
theorem inherent_eq_ok (a b : Window)
    (hmem : a.ptr = b.ptr → a.bytes.length = b.bytes.length → a.bytes = b.bytes) :
    runInherentEq HipVerif.Gen.CmpImpls.inherentEq a b = some (eqV .bytes a.bytes b.bytes) := by
  simp only [HipVerif.Gen.CmpImpls.inherentEq, runInherentEq, eqV]
  by_cases hl : a.bytes.length = b.bytes.length
  · by_cases hp : a.ptr = b.ptr
    · simp [hp, hmem hp hl]
    · simp only [hl, hp, ne_eq, not_true_eq_false, if_false]
      congr 1
      rw [Bool.eq_iff_iff, memcmpIsZero_iff, decide_eq_true_iff]
  · have : a.bytes ≠ b.bytes := fun e => hl (by rw [e])
    simp [hl, this]

/-- The hypothesis of `inherent_eq_ok` is satisfiable in the three interesting situations: same
    window, same address but shorter (a sub-slice: lengths differ), different addresses. -/
example : ∃ a b c d : Window,
    (a.ptr = b.ptr → a.bytes.length = b.bytes.length → a.bytes = b.bytes) ∧ a.ptr = b.ptr ∧ a.bytes = b.bytes ∧
    (a.ptr = c.ptr → a.bytes.length = c.bytes.length → a.bytes = c.bytes) ∧ a.ptr = c.ptr ∧ a.bytes ≠ c.bytes ∧
    (a.ptr = d.ptr → a.bytes.length = d.bytes.length → a.bytes = d.bytes) ∧ a.ptr ≠ d.ptr ∧ a.bytes = d.bytes :=
  ⟨⟨16, [1, 2]⟩, ⟨16, [1, 2]⟩, ⟨16, [1]⟩, ⟨64, [1, 2]⟩, by decide +kernel⟩

/-
FULL STATEMENT (false today because of the two known findings D7 and D8):

theorem borrow_coherent : ∀ b ∈ borrows, borrowOk genEnv b = true

i.e. for every `impl Borrow<T> for Hip*`, with `ve`/`vo`/`vh` the views of the owner's `==`/`cmp`/`hash`
and `tv` the view of `T`:  ∀ x y, eqV ve x y = eqV tv x y ∧ cmpV vo x y = cmpV tv x y ∧
hashStreamV vh x = hashStreamV (hashViewOf T) x   (the contract of `core::borrow::Borrow`, which
`HashMap::get` / `BTreeMap::get` rely on).
-/

/-- `borrow_coherent` for every `Borrow` impl except exactly the two known findings
    (`Borrow<OsStr> for HipPath`, `Borrow<BStr> for HipStr`): the borrowed form compares, orders and
    hashes exactly like the owner, so map lookups through it find the entry.
    Missing for the full statement: those two rows, for which the statement is false (below). -/
theorem borrow_coherent_partial :
    ∀ b ∈ borrows, b.isKnownFinding = false →
      ∃ ve vo vh tv,
        genEnv.ownerView .partialEq b.owner = some ve ∧ genEnv.ownerView .ord b.owner = some vo ∧
        genEnv.ownerView .hash b.owner = some vh ∧ stdView b.target b.target = some tv ∧
        ∀ x y, eqV ve x y = eqV tv x y ∧ cmpV vo x y = cmpV tv x y ∧
          hashStreamV vh x = hashStreamV (hashViewOf b.target) x := by
  have h : ∀ b ∈ borrows, b.isKnownFinding = false → borrowOk genEnv.hipOnly b = true := by
    decide +kernel
  exact fun b hb hk => borrowOk_sound genEnv b (borrowOk_hipOnly genEnv b ▸ h b hb hk)

/-- The exclusion is exactly two rows, and there are rows left. -/
theorem borrow_known_findings_exact :
    (borrows.filter (·.isKnownFinding)).length = 2 ∧ (borrows.filter (!·.isKnownFinding)).length = 5 := by
  decide +kernel

/-- D7: `impl Borrow<OsStr> for HipPath` exists and breaks the `Borrow` contract: `HipPath` compares
    and hashes as `Path`, `OsStr` bytewise. Witnesses: `HipPath("a/") == HipPath("a")` but
    `OsStr("a/") != OsStr("a")` (and `cmp` says `Equal` vs `Greater`); `HipPath("abc")` and
    `OsStr("abc")` feed different streams to the hasher, so `HashMap<HipPath,_>::get(OsStr)` misses. -/
theorem borrow_osstr_hippath_incoherent :
    (∃ b ∈ borrows, b.owner = .path ∧ b.target = .osStr ∧ borrowOk genEnv b = false) ∧
    genEnv.ownerView .partialEq .path = some .path ∧ genEnv.ownerView .hash .path = some .path ∧
    stdView .osStr .osStr = some .osstr ∧
    eqV .path d7EqWitness.1 d7EqWitness.2 = true ∧ eqV .osstr d7EqWitness.1 d7EqWitness.2 = false ∧
    cmpV .path d7EqWitness.1 d7EqWitness.2 = .eq ∧ cmpV .osstr d7EqWitness.1 d7EqWitness.2 = .gt ∧
    hashStreamV .path d7HashWitness ≠ hashStreamV (hashViewOf .osStr) d7HashWitness := by
  simp only [← borrowOk_hipOnly genEnv, ← ownerView_hipOnly genEnv]
  decide +kernel

/-- D8: `impl Borrow<BStr> for HipStr` (feature `bstr`) exists and breaks the `Borrow` contract on
    `Hash` only: `HipStr("abc")` hashes as `str` (`61 62 63 ff`), `BStr("abc")` as `[u8]`
    (`03 00 00 00 00 00 00 00 61 62 63`), so `HashMap<HipStr,_>::get(BStr)` misses; `==`/`cmp` agree. -/
theorem borrow_bstr_hipstr_incoherent :
    (∃ b ∈ borrows, b.owner = .str ∧ b.target = .bstr ∧ borrowOk genEnv b = false) ∧
    genEnv.ownerView .hash .str = some .str ∧
    hashStreamV .str d8HashWitness = [97, 98, 99, 255] ∧
    hashStreamV (hashViewOf .bstr) d8HashWitness = [3, 0, 0, 0, 0, 0, 0, 0, 97, 98, 99] ∧
    (∀ x y, eqV .str x y = eqV .bytes x y ∧ cmpV .str x y = cmpV .bytes x y) := by
  simp only [← borrowOk_hipOnly genEnv, ← ownerView_hipOnly genEnv]
  refine ⟨by decide +kernel, by decide +kernel, by decide +kernel, by decide +kernel, fun _ _ => ⟨rfl, rfl⟩⟩

/-- The path view really differs from the byte views — on equality (`"a/"` vs `"a"`), order
    (`"a//b"` vs `"a/b"`) and hash stream (`"abc"`) — and `str` hashes differently from `[u8]`, so
    `impl_view_ok` / `borrowOk` distinguish a `Path` comparison from an `OsStr` one. -/
theorem views_differ :
    (∃ x y, eqV .path x y ≠ eqV .bytes x y) ∧ (∃ x y, cmpV .path x y ≠ cmpV .osstr x y) ∧
    (∃ x, hashStreamV .path x ≠ hashStreamV .osstr x) ∧ (∃ x, hashStreamV .str x ≠ hashStreamV .bytes x) :=
  ⟨⟨[97, 47], [97], by decide +kernel⟩, ⟨[97, 47, 47, 98], [97, 47, 98], by decide +kernel⟩,
   ⟨[97, 98, 99], by decide +kernel⟩, ⟨[97, 98, 99], by decide +kernel⟩⟩

/-- `rowOk` is falsifiable: the pre-fix `os_str_eq(impl AsRef<OsStr>, impl AsRef<OsStr>)` row for
    `OsStr == HipPath` (defect D6) and a `symmetric_ord!` row without the `reverse` are rejected. -/
example :
    rowOk genEnv ⟨.partialEq, .std .osStr false, .hip .path,
      .helper "os_str_eq" .osStr .osStr .eqeq .self .other false "" "", "std", ""⟩ = false ∧
    rowOk genEnv ⟨.partialOrd, .hip .byt, .std .vec false,
      .helper "cmp_slice" .slice .slice .partialCmp .other .self false "" "", "", ""⟩ = false := by
  decide +kernel

/-! ## The path view is what std's loop computes; `components` is canonical -/

/-- The statement-by-statement transcription of std's `<Path as Hash>::hash` byte loop
    (`pathHashLoop`: separators skipped, `.` after a separator skipped, `chunk_bits` folded and written
    last) feeds the hasher exactly the stream `hashStreamV .path` defines on `components`, for every
    byte string. So `eq_hash` for the path view speaks about the loop std actually runs. -/
theorem path_hash_loop_eq (bs : List UInt8) : pathHashLoop bs = hashStreamV .path bs :=
  pathHashLoop_eq bs

/-- `Path`s that are `==` feed std's hash loop the same stream (`Eq`/`Hash` coherence of `Path`,
    hence of `HipPath`, for the real algorithm). -/
theorem eq_hash_path_loop (x y : List UInt8) (h : eqV .path x y = true) :
    pathHashLoop x = pathHashLoop y := by
  rw [pathHashLoop_eq, pathHashLoop_eq]
  exact eqV_hash .path x y h

/-- Path equality is equality of `components` (and so is `cmp = Equal`). -/
theorem path_eq_iff_components (x y : List UInt8) :
    (eqV .path x y = true ↔ components x = components y) ∧
    (cmpV .path x y = .eq ↔ components x = components y) :=
  ⟨by simp [eqV], by rw [← eqV_iff_cmpV]; simp [eqV]⟩

/-- Trailing-separator law: for a non-empty path, `x/` has the components of `x`
    (so `HipPath("a/") == HipPath("a")`, same `cmp`, same hash). -/
theorem components_trailing_sep (x : List UInt8) (hx : x ≠ []) :
    components (x ++ [SEP]) = components x := by
  have hs : splitSlash (x ++ [SEP]) = splitSlash x ++ [[]] := by
    simpa [splitSlash] using splitSlash_append_sep x []
  refine components_congr ?_ (by rw [hs, head?_splitSlash_append]) (by simp [hs, pieceComp])
  cases x with
  | nil => exact absurd rfl hx
  | cons _ _ => rfl

/-- The hypothesis is needed and satisfiable: `""` has no components while `"/"` is `[RootDir]`;
    `"a/"` and `"a"` agree. -/
example : components ([] ++ [SEP]) ≠ components [] ∧ components ([97] ++ [SEP]) = components [97] := by
  decide +kernel

/-- A trailing `/.` is ignored for a non-empty path. -/
theorem components_trailing_dot (x : List UInt8) (hx : x ≠ []) :
    components (x ++ [SEP, DOT]) = components x :=
  (components_congr_after_sep x [DOT] [] (by simp [splitSlash, DOT_ne_SEP, pieceComp])).trans
    (components_trailing_sep x hx)

/-- An interior `.` is ignored: `x/./y` has the components of `x/y` (any `x`, `y`, including empty). -/
theorem components_interior_dot (x y : List UInt8) :
    components (x ++ SEP :: DOT :: SEP :: y) = components (x ++ SEP :: y) :=
  components_congr_after_sep x (DOT :: SEP :: y) y (by simp [splitSlash, DOT_ne_SEP, pieceComp])

/-- Repeated separators are ignored: `x//y` has the components of `x/y`. -/
theorem components_repeated_sep (x y : List UInt8) :
    components (x ++ SEP :: SEP :: y) = components (x ++ SEP :: y) :=
  components_congr_after_sep x (SEP :: y) y (by simp [splitSlash_cons_sep, pieceComp])

/-- But a *leading* `.` is kept (`CurDir`), and `..` is never resolved: canonical ≠ normalised. -/
example : components [DOT, SEP, 97] ≠ components [97] ∧
    components [97, SEP, DOT, DOT, SEP, 98] ≠ components [98] := by decide +kernel

/-- From what `borrowOk_sound` gives to map lookups: the owner's own `==` and `hash` are coherent
    (`hip_eq_ord_hash_coherent`), and the borrowed form computes the same three functions. -/
private theorem lookup_of_sound {b : BorrowRow} {ve vo vh tv : View}
    (h1 : genEnv.ownerView .partialEq b.owner = some ve) (h3 : genEnv.ownerView .hash b.owner = some vh)
    (hall : ∀ x y, eqV ve x y = eqV tv x y ∧ cmpV vo x y = cmpV tv x y ∧
      hashStreamV vh x = hashStreamV (hashViewOf b.target) x) (k q : List UInt8) :
    (eqV ve k q = true →
      hashStreamV (hashViewOf b.target) q = hashStreamV vh k ∧ eqV tv q k = true) ∧
    (eqV tv q k = true → eqV ve k q = true) ∧
    cmpV tv q k = cmpV vo q k := by
  obtain ⟨ve', _, _, vh', g1, _, _, g4, gall⟩ := hip_eq_ord_hash_coherent b.owner
  obtain rfl : ve' = ve := Option.some.inj (g1.symm.trans h1)
  obtain rfl : vh' = vh := Option.some.inj (g4.symm.trans h3)
  refine ⟨fun hkq => ⟨?_, ?_⟩, fun hqk => ?_, ?_⟩
  · rw [← (hall q q).2.2, ← (gall k q).2.2 hkq]
  · rw [← (hall q k).1, eqV_symm]; exact hkq
  · rw [(hall k q).1, eqV_symm]; exact hqk
  · exact ((hall q k).2.1).symm

/-- For every row accepted by `borrowOk` (membership in `borrows` plays no part: `borrowOk` is all that
    is used) — owner views `ve` (`==`), `vo` (`cmp`), `vh`
    (`hash`), target views `tv = stdView target target`, `hashViewOf target` — and every stored key
    `k` and query `q` (as byte strings):
    * if the owner considers them equal (`k == q`), then `q.borrow()` feeds the hasher the stream
      `k` fed when it was inserted (same hash under any `Hasher`, so the probe reaches `k`'s bucket)
      and `q.borrow() == k.borrow()`: `HashMap<Owner,_>::get(q.borrow())` finds the entry;
    * a hit through the borrowed form is a hit for the owner (no false positives);
    * the borrowed form orders `q` against `k` exactly like the owner, so `BTreeMap::get` walks the
      same path. -/
theorem borrow_lookup_finds : ∀ b ∈ borrows, borrowOk genEnv b = true →
    ∃ ve vo vh tv,
      genEnv.ownerView .partialEq b.owner = some ve ∧ genEnv.ownerView .ord b.owner = some vo ∧
      genEnv.ownerView .hash b.owner = some vh ∧ stdView b.target b.target = some tv ∧
      ∀ k q,
        (eqV ve k q = true →
          hashStreamV (hashViewOf b.target) q = hashStreamV vh k ∧ eqV tv q k = true) ∧
        (eqV tv q k = true → eqV ve k q = true) ∧
        cmpV tv q k = cmpV vo q k :=
  fun b _ hok =>
    let ⟨ve, vo, vh, tv, h1, h2, h3, h4, hall⟩ := borrowOk_sound genEnv b hok
    ⟨ve, vo, vh, tv, h1, h2, h3, h4, lookup_of_sound h1 h3 hall⟩

/-
FULL STATEMENT (false because of D7 / D8):
theorem borrow_lookup_finds_all : ∀ b ∈ borrows, <conclusion of borrow_lookup_finds>
-/

/-- `borrow_lookup_finds` instantiated for the five coherent rows (`Borrow<[u8]>`/`Borrow<BStr>`
    for `HipByt`, `Borrow<str> for HipStr`, `Borrow<OsStr> for HipOsStr`, `Borrow<Path> for HipPath`):
    `HashMap`/`BTreeMap` lookups through them find exactly the owner's entries.
    Missing for the full statement: the two known-finding rows, where lookups miss (D7, D8). -/
theorem borrow_lookup_finds_partial : ∀ b ∈ borrows, b.isKnownFinding = false →
    ∃ ve vo vh tv,
      genEnv.ownerView .partialEq b.owner = some ve ∧ genEnv.ownerView .ord b.owner = some vo ∧
      genEnv.ownerView .hash b.owner = some vh ∧ stdView b.target b.target = some tv ∧
      ∀ k q,
        (eqV ve k q = true →
          hashStreamV (hashViewOf b.target) q = hashStreamV vh k ∧ eqV tv q k = true) ∧
        (eqV tv q k = true → eqV ve k q = true) ∧
        cmpV tv q k = cmpV vo q k :=
  fun b hb hk =>
    let ⟨ve, vo, vh, tv, h1, h2, h3, h4, hall⟩ := borrow_coherent_partial b hb hk
    ⟨ve, vo, vh, tv, h1, h2, h3, h4, lookup_of_sound h1 h3 hall⟩

/-- The five rows, by name, and a non-trivial instance of the hypothesis `k == q`: for
    `Borrow<Path> for HipPath`, `k = "a/"`, `q = "a"` are equal keys with different bytes. -/
example :
    (borrows.filter (!·.isKnownFinding)).map (fun b => (b.owner, b.target)) =
      [(.byt, .bstr), (.byt, .slice), (.os, .osStr), (.path, .path), (.str, .str)] ∧
    eqV .path [97, 47] [97] = true ∧ ([97, 47] : List UInt8) ≠ [97] := by
  decide +kernel

end HipVerif.Props.C12
