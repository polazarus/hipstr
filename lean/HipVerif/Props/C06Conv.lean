/-
C06 (conversion doors) — what the functions that turn NON-UTF-8-typed content into a `HipStr`
compute: the lossy constructors always return well-formed UTF-8 and are the identity on
well-formed input; the strict ones accept exactly the well-formed inputs and hand the original
back otherwise; UTF-16 decoding (strict and lossy) yields well-formed UTF-8 and fails exactly on
an unpaired surrogate. Models: `Model/Utf8.lean` (`decodeLossy`, `valid`, `validUpTo`) and
`Model/Utf8Conv.lean`; proofs in `Lemmas/Utf8.lean`, `Lemmas/Utf8Conv.lean`.

Tie to the code: `doordrive` calls every such door of `Gen/Doors.lean` for real and compares it
with its std twin and (through the twin) with these models; the last four theorems state that
doordrive's reviewed call list covers the door table (`Model/DoorCalls.lean`).
-/
import HipVerif.Lemmas.Utf8Conv
import HipVerif.Model.DoorCalls
import HipVerif.Lemmas.KeyClasses

namespace HipVerif.Props.C06
open HipVerif.Utf8
open HipVerif.Model.Doors
open HipVerif.Gen.Doors (doors)

/-- `from_utf8_lossy` / `to_str_lossy`: whatever bytes come in (any `HipByt`, any Unix
    `OsStr`), the resulting `HipStr` holds well-formed UTF-8. -/
theorem lossy_always_valid (bs : List UInt8) : valid (toStrLossy bs) = true :=
  valid_decodeLossy bs

/-- On well-formed input the lossy constructors return the input unchanged (the case in which
    the implementation may share the source buffer). -/
theorem lossy_identity_on_valid {bs : List UInt8} (h : valid bs = true) : toStrLossy bs = bs :=
  decodeLossy_of_valid h

/-- Conversely the lossy result equals the input ONLY when the input was well-formed: sharing the
    source is justified by nothing weaker (in particular not by equal lengths, see
    `lossy_equal_length_is_not_enough`). -/
theorem lossy_identity_only_on_valid {bs : List UInt8} (h : toStrLossy bs = bs) :
    valid bs = true := by
  have := lossy_always_valid bs
  rwa [h] at this

/-- The seeded change C06-m5 in one line: an ill-formed input whose lossy image has the same
    length (a 4-byte sequence cut after 3 bytes vs. the 3-byte U+FFFD). -/
theorem lossy_equal_length_is_not_enough :
    ∃ bs : List UInt8, valid bs = false ∧ (toStrLossy bs).length = bs.length ∧ toStrLossy bs ≠ bs :=
  ⟨[0xF0, 0x9F, 0xA6], lossy_same_length_counterexample⟩

/-- `to_str` (and `OsStr::to_str`): `Some` exactly on well-formed input. -/
theorem strict_accepts_iff_valid (bs : List UInt8) :
    (toStr bs).isSome = true ↔ valid bs = true := toStr_isSome_iff bs

/-- What `to_str` returns is the input itself, and it is well-formed. -/
theorem strict_some_is_input {bs r : List UInt8} (h : toStr bs = some r) :
    r = bs ∧ valid r = true := toStr_eq_some h

/-- `into_str` (`HipOsStr`, `HipPath`): `Ok` holds the input and is well-formed; `Err` hands the
    ORIGINAL value back and happens only on ill-formed input. -/
theorem into_str_spec (bs : List UInt8) :
    (∀ r, intoStr bs = .ok r → r = bs ∧ valid r = true) ∧
    (∀ e, intoStr bs = .error e → e = bs ∧ valid bs = false) :=
  ⟨fun _ h => intoStr_ok h, fun _ h => intoStr_error h⟩

/-- `from_utf8` / `TryFrom<bytes>`: `Ok` iff well-formed; the error carries the original bytes
    and a `valid_up_to` that is a strict, well-formed, maximal prefix. -/
theorem from_utf8_spec (bs : List UInt8) :
    ((fromUtf8 bs).isOk = true ↔ valid bs = true) ∧
    (∀ r, fromUtf8 bs = .ok r → r = bs ∧ valid r = true) ∧
    (∀ k back, fromUtf8 bs = .error (k, back) →
      back = bs ∧ valid bs = false ∧ k < bs.length ∧ valid (bs.take k) = true ∧
        firstCharLen (bs.drop k) = 0) :=
  ⟨fromUtf8_isOk_iff bs, fun _ h => fromUtf8_ok h, fun _ _ h => fromUtf8_error h⟩

/-- `from_utf16`: a successful result is well-formed UTF-8. -/
theorem utf16_strict_valid {v : List UInt16} {bs : List UInt8} (h : decodeUtf16 v = some bs) :
    valid bs = true := valid_decodeUtf16 h

/-- `from_utf16_lossy`: always well-formed UTF-8. -/
theorem utf16_lossy_valid (v : List UInt16) : valid (decodeUtf16Lossy v) = true :=
  valid_decodeUtf16Lossy v

/-- `from_utf16` fails exactly when some surrogate is unpaired (a low one not preceded by a
    high one, or a high one not followed by a low one). -/
theorem utf16_strict_none_iff_unpaired (v : List UInt16) :
    decodeUtf16 v = none ↔ hasUnpairedSurrogate false v = true := decodeUtf16_none_iff v

/-- Where the strict decoder succeeds the lossy one returns the same string. -/
theorem utf16_lossy_eq_strict {v : List UInt16} {bs : List UInt8} (h : decodeUtf16 v = some bs) :
    decodeUtf16Lossy v = bs := decodeUtf16Lossy_eq_of_some h

/-! ### doordrive covers the door table -/

/- Evaluated sanity check: the reviewed lists are keys of real row names. -/
#guard (doorCalls ++ doorSkips).all fun k => doors.any fun d => d.key == k

/-- Every safe door through which non-UTF-8-typed data reaches a `HipStr`, and every safe door
    into `HipOsStr`/`HipPath`, is called by doordrive or is on its reasoned skip list. -/
theorem conv_doors_covered : uncoveredDoors = [] := by decide +kernel

/-- The lossy constructors (`lossyFns`) and the fallible bytes -> str / os -> str conversions
    are CALLED by doordrive (a skip is not accepted): a new name on the reviewed `lossyFns`
    list cannot appear without a differential. -/
theorem conv_must_doors_called : uncalledMustDoors = [] := by decide +kernel

/-- In particular every row whose simple name is on `lossyFns` is in the call table. -/
theorem conv_lossy_fns_called :
    ∀ d ∈ doors, d.isUnsafe = false → d.producesStr = true → d.simpleKey ∈ lossyFns →
      (∀ c ∈ d.inputs, c = .strLike ∨ c = .scalar) ∨ d.key ∈ doorCalls := by
  intro d hd hu hp hl
  cases hin : d.inputs.all strInputOk with
  | true => exact Or.inl (by simpa [strInputOk] using hin)
  | false =>
    have hm : mustBeCalled d = true := by simp [mustBeCalled, hu, hp, hin, hl]
    have := List.filter_eq_nil_iff.mp conv_must_doors_called d hd
    exact Or.inr (by simpa [hm] using this)

open HipVerif.Classes in
/-- No stale entries: every reviewed call / skip names a row that needs a differential. -/
theorem conv_calls_not_stale : staleDoorCalls = [] := by
  -- entries against rows, class by class (full-name key modulo 13)
  have h : allAny 13 id (·.key) (fun k d => needsDifferential d && d.key == k)
      (doorCalls ++ doorSkips) doors = true := by decide +kernel
  exact List.filter_eq_nil_iff.mpr fun k hk => by simp [allAny_sound (by decide) h k hk]

/-! ### Non-vacuity -/

example : (doors.filter needsDifferential).length ≥ 60 ∧ (doors.filter mustBeCalled).length ≥ 12 ∧
    doorCalls.length ≥ 60 := by decide +kernel

example : decodeUtf16 [0x61, 0xD83E, 0xDD80] = some [0x61, 0xF0, 0x9F, 0xA6, 0x80] ∧
    decodeUtf16 [0xD83E] = none ∧ hasUnpairedSurrogate false [0xDD80, 0xD83E] = true ∧
    toStr [0xC3, 0xA9] = some [0xC3, 0xA9] ∧ toStr [0xC3] = none ∧
    (match intoStr [0xF0, 0x9F, 0xA6] with | .error e => e == [0xF0, 0x9F, 0xA6] | .ok _ => false) = true ∧
    (match fromUtf8 [0x61, 0xF0, 0x9F, 0xA6] with
      | .error (k, e) => k == 1 && e == [0x61, 0xF0, 0x9F, 0xA6] | .ok _ => false) = true := by decide

end HipVerif.Props.C06
