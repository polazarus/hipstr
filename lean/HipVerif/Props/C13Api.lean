/-
C13 (coverage part) — every safe public function of the vector family is driven, monitored or
reviewed.

Decided over `Gen/VecApi.lean` (regenerated on every run from /repo/src — the rows of the
public-function table under `vecs::`, `common::drain::`, `common::traits::` — and from
`harness/src/bin/vecdrive.rs` — the operation names it dispatches on, the methods it calls).
The reviewed map `vecApiCoverage` and the predicates are in `Model/VecApi.lean`.
This is the gate that a function like `InlineVec::const_append` — not in the model's alphabet,
not called by the differential — cannot pass silently.
-/
import HipVerif.Model.VecApi
import HipVerif.Lemmas.KeyClasses

namespace HipVerif.Props.C13
open HipVerif.Model.VecApi HipVerif.Classes
open HipVerif.Gen.VecApi (vecFns driveOps driveCalls)

/- Evaluated (not kernel-checked) sanity check of the generated numeric keys. -/
#guard vecApiKeysOk

/-- **Every safe function of the vector family is covered.** Each safe callable function under
    `vecs::` (InlineVec, ThinVec, IntoIter, InsertError), `common::drain::` and
    `common::traits::` has exactly one entry in the reviewed map, and the entry is backed by the
    generated facts: `drivenAs op` — `op` is an operation of the list model (`opKey`), `vecdrive`
    dispatches on that name and calls a method of the function's name; `monitoredBy` — `vecdrive`
    calls a method of that name (in a per-step monitor); `indirect via` — `vecdrive` calls `via`;
    or it is on the reviewed not-driven list. No entry is stale or duplicated, and the list model
    and `vecdrive` have the same operation vocabulary. -/
theorem vec_api_covered :
    (∀ f ∈ vecFns, f.isUnsafe = false → ∃ c, coverOf f.key = some c) ∧
    (∀ e ∈ vecApiCoverage, entryOk e = true) ∧
    staleEntries = [] ∧ opsAgree = true := by
  have h2 : (vecApiCoverage.all entryOk) = true := by decide +kernel
  -- `keysMatch` is the class-wise form of `vecFns.all fnCovered` and `staleEntries = []`: safe fns
  -- against entries, entries against fns and against each other.
  have hk : keysMatch 13 (·.key) (!·.isUnsafe) vecFns vecApiCoverage = true := by decide +kernel
  obtain ⟨h1, h3⟩ := keysMatch_sound (by decide) hk
  exact ⟨fun f hf hu => h1 f hf (by simp [hu]), List.all_eq_true.mp h2, h3, by decide +kernel⟩

/-- Every operation of the list model has a protocol name in `modelOpKeys` (so `opsAgree` really
    speaks about all of `Vecs.Op`). -/
theorem op_keys_complete (op : HipVerif.Vecs.Op α) : opKey op ∈ modelOpKeys := by
  cases op <;> (simp only [opKey]; decide)

/-! ### Non-vacuity -/

/-- The tables are inhabited; the listings are empty on the current tree. -/
example : vecFns.length > 100 ∧ (vecFns.filter (!·.isUnsafe)).length > 90 ∧ driveOps.length = 33 ∧
    uncoveredFns = [] ∧ badEntries = [] := by
  obtain ⟨h1, h2, -, -⟩ := vec_api_covered
  have hu : uncoveredFns = [] := by
    refine List.map_eq_nil_iff.mpr (List.filter_eq_nil_iff.mpr fun f hf => ?_)
    cases hu : f.isUnsafe with
    | true => simp [fnCovered, hu]
    | false =>
      obtain ⟨c, hc⟩ := h1 f hf hu
      simp [fnCovered, hc]
  have hb : badEntries = [] := failing_eq_nil h2
  simp only [hu, hb, and_true]
  decide +kernel

/-- What the predicates reject: a safe function without an entry; an entry naming an operation the
    model does not have; one naming a method `vecdrive` never calls. -/
example :
    fnCovered ⟨"vecs::inline::InlineVec::const_append_v2", key% "vecs::inline::InlineVec::const_append_v2",
      "const_append_v2", key% "const_append_v2", false, "x"⟩ = false ∧
    entryOk (key% "vecs::inline::InlineVec::const_append", .drivenAs (key% "no_such_op")) = false ∧
    entryOk (key% "<vecs::inline::InlineVec<T, CAP, SHIFT, TAG> as Ord>::cmp",
      .monitoredBy "nothing calls cmp") = false ∧
    entryOk (key% "vecs::inline::InlineVec::const_append", .drivenAs (key% "const_append")) = true := by
  decide +kernel

end HipVerif.Props.C13
