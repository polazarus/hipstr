/-
  Props/C13.lean — "InlineVec and ThinVec behave exactly like Vec within their capacity rules".

  Objects: the L1 models `IV` / `TV` of `Model/Vecs.lean` (tied to /repo/src/vecs/{inline,thin}.rs
  by the three-way differential `harness/src/bin/vecdrive.rs`), the std specification
  `Spec/Vec.lean` lifted to the same operation alphabet (`specStep`, `specRun` in
  `Lemmas/Vecs.lean`).  Everything is for an arbitrary element type `α`, an arbitrary capacity /
  arbitrary type parameters, and arbitrary operation histories.

  Vocabulary:
  * `needs xs op`   — how many elements the vector must be able to hold for `op` (0 if `op` does
                      not grow the vector or `Vec` rejects it);
  * `appended op`   — the items `op` appends;
  * `Op.forIV/forTV`— the operation exists on that vector kind (`Op.constAppend cap2 other` =
                      `InlineVec::const_append` from an `InlineVec<_, cap2>`; `Op.spareWrite` =
                      `spare_capacity_mut` + `set_len`);
  * `Op.InRange`    — slice arguments have a `usize` length;
  * a ThinVec "capacity overflow" panic (`PanicClass.overflow`: `len + additional` overflows
    `usize` or the layout exceeds `isize::MAX`) is not part of the list specification (lists are
    unbounded); `tv_overflow_iff` characterises exactly when `reserve` raises it.
-/
import HipVerif.Lemmas.Vecs

namespace HipVerif.Props.C13

open HipVerif.Vecs
open HipVerif.Spec.Vec (Bnd Side)

/-- **InlineVec refines Vec.** From any state with `len ≤ CAP`, for any history whose operations
    exist on `InlineVec` and never need more than `CAP` elements, the model returns exactly what
    `Vec` returns at every step — including `Vec`'s own index/range panics, with the same class —
    and ends with the same elements in the same order. -/
theorem iv_refines (s : IV α) (hw : s.xs.length ≤ s.cap) (ops : List (Op α))
    (h : IVFits s.cap s.xs ops) :
    (s.run ops).1 = (specRun s.xs ops).1 ∧ (s.run ops).2 = ⟨s.cap, (specRun s.xs ops).2⟩ := by
  induction ops generalizing s with
  | nil => cases s; simp [IV.run, specRun]
  | cons op rest ih =>
    obtain ⟨h1, h2, h3⟩ := h
    have hstep := IV.step_spec s op hw h1 h2
    have hwf := IV.step_wf s op hw
    have := ih (s.step op).2 (by rw [hwf.1]; exact hwf.2)
      (by rw [hstep]; exact h3)
    simp only [IV.run, specRun]
    rw [hstep] at this ⊢
    simp only at this ⊢
    exact ⟨by rw [this.1], this.2⟩

example : IVFits 2 ([] : List Nat) [.push 1, .tryPush 2, .swapRemove 0, .insert 5 9, .pop] := by
  simp [IVFits, Op.forIV, needs, specStep, Spec.Vec.push, Spec.Vec.swapRemove]

example : ((IV.new 2 : IV Nat).run [.push 1, .tryPush 2, .swapRemove 0, .insert 5 9, .pop]) =
    ([.ok .unit, .ok .unit, .ok (.elem 1), .panic .index, .ok (.opt (some 2))], ⟨2, []⟩) := by
  decide

/-- **ThinVec refines Vec.** From any well-formed state, for any history of `ThinVec`
    operations that does not hit a capacity overflow, the model returns exactly what `Vec`
    returns at every step (panics included) and ends with the same elements in the same order. -/
theorem tv_refines (s : TV α) (hw : s.Wf) (ops : List (Op α)) (h : TVQuiet s ops) :
    (s.run ops).1 = (specRun s.xs ops).1 ∧ (s.run ops).2.xs = (specRun s.xs ops).2 := by
  induction ops generalizing s with
  | nil => simp [TV.run, specRun]
  | cons op rest ih =>
    obtain ⟨h1, h2, h3, h4⟩ := h
    have sim := TV.step_sim s hw op h1 h2
    rcases sim.res with ⟨e, _⟩ | ⟨e1, e2⟩
    · exact absurd e h3
    · have := ih (s.step op).2 sim.wf h4
      simp only [TV.run, specRun]
      rw [e2] at this
      exact ⟨by rw [e1, this.1], this.2⟩

example : TVQuiet tv0 [.push 1, .extendFromSlice [2, 3, 4, 5], .remove 9, .shrinkToFit] := by
  refine ⟨rfl, trivial, by decide, rfl, trivial, by decide, rfl, trivial, by decide, rfl, trivial,
    by decide, trivial⟩

example : (tv0.run [.push 1, .extendFromSlice [2, 3, 4, 5], .remove 9, .shrinkToFit]) =
    ([.ok .unit, .ok .unit, .panic .index, .ok .unit], ⟨5, [1, 2, 3, 4, 5], 8, 8, 8, 8⟩) := by
  decide

/-- **InlineVec panics exactly where Vec panics, plus where the fixed capacity would be
    exceeded** (the `try_` variants never panic). Holds in every state reachable from `new()`. -/
theorem panics_iff_iv {cap : Nat} (s : IV α) (hr : IVReach cap s) (op : Op α)
    (hs : op.forIV = true) :
    (s.step op).1.isPanic = true ↔
      specPanics s.xs op ∨ (op.isTry = false ∧ s.cap < needs s.xs op) := by
  have hw := hr.wf.2
  rw [IV.step_eq s op hw hs]
  split
  · exact ⟨.inl, fun h => h.elim id fun h => by omega⟩
  · -- beyond the capacity `Vec` itself accepts (`needs > 0`): only the capacity rule decides
    obtain ⟨v, hv⟩ := spec_ok_of_needs s.xs op (by omega)
    have hsp : ¬ specPanics s.xs op := by simp [specPanics, hv, Outcome.isPanic]
    rcases s.full_cases op hw with ⟨ht, _, _, h⟩ | ⟨ht, h, _⟩
    · rw [h]; simp [Outcome.isPanic, hsp, ht]
    · rw [h]; simp [Outcome.isPanic, ht]; omega

example : IVReach 1 ((IV.new 1 : IV Nat).run [.push 7]).2 := ⟨_, rfl⟩

example : (((IV.new 1 : IV Nat).run [.push 7]).2.step (.push 8)).1.isPanic = true := by decide

/-- `Vec` never raises a capacity-overflow, capacity or unreachable panic: its panics are the
    index / range ones. -/
theorem spec_panic_classes (xs : List α) (op : Op α) (c : PanicClass)
    (h : (specStep xs op).1 = .panic c) : c = .index ∨ c = .range :=
  (spec_panic xs op c h).1

/-- **ThinVec panics exactly where Vec panics**, or with a capacity overflow. Holds in every state
    reachable from `new()`. -/
theorem panics_iff_tv {p : TVParams} (s : TV α) (hr : TVReach p s) (op : Op α)
    (hs : op.forTV = true) (hi : op.InRange) :
    (s.step op).1.isPanic = true ↔
      specPanics s.xs op ∨ (s.step op).1 = .panic .overflow := by
  have sim := TV.step_sim s hr.wf.1 op hs hi
  rcases sim.res with ⟨e, _⟩ | ⟨e1, _⟩
  · simp [e, Outcome.isPanic]
  · constructor
    · intro h; left; rw [e1] at h; exact h
    · rintro (h | h)
      · rw [e1]; exact h
      · rw [h]; rfl

example : TVReach ⟨8, 8, 8, 8⟩ tv0 ∧ specPanics tv0.xs (.remove 0 : Op Nat) ∧
    (tv0.step (.remove 0)).1.isPanic = true :=
  ⟨tv0_reach, by unfold specPanics; decide, by decide⟩

example : (specStep ([] : List Nat) (.remove 0)).1 = .panic .index := by decide

/-- **When `ThinVec::reserve` overflows**: exactly when `len + additional` overflows `usize`, or
    the bytes needed for `max(len + additional, 2 * cap)` elements after the header exceed
    `isize::MAX + 1 - align` (the `Layout` limit) — the same kind of request on which `Vec`
    panics with "capacity overflow". -/
theorem tv_overflow_iff (s : TV α) (hw : s.Wf) (k : Nat) :
    (s.reserve k).1 = .panic .overflow ↔
      s.cap - s.xs.length < k ∧
        (usizeMax < s.xs.length + k ∨
         2 ^ 63 - layoutAlign s.params <
           dataOffset s.params + s.szT * max (s.xs.length + k) (s.cap * 2)) := by
  unfold TV.reserve checkedAdd
  by_cases hb : k > s.cap - s.xs.length
  · by_cases ho : s.xs.length + k ≤ usizeMax
    · simp only [hb, ho, if_true, TV.setCapacity_overflow_iff hw, layout_eq_none_iff, true_and]
      exact ⟨.inr, fun h => h.resolve_left (by omega)⟩
    · simp only [hb, ho, if_true, if_false, true_and, true_iff]
      exact .inl (by omega)
  · simp [hb]

example : (tv0.reserve (2 ^ 64 - 1)).1 = .panic .overflow := by decide

/-- **Panics, both vector kinds**: the conjunction of `panics_iff_iv` and `panics_iff_tv`
    (`tv_overflow_iff` says when the ThinVec overflow occurs). -/
theorem panics_iff :
    (∀ (α : Type) (cap : Nat) (s : IV α), IVReach cap s → ∀ op : Op α, op.forIV = true →
      ((s.step op).1.isPanic = true ↔
        specPanics s.xs op ∨ (op.isTry = false ∧ s.cap < needs s.xs op))) ∧
    (∀ (α : Type) (p : TVParams) (s : TV α), TVReach p s → ∀ op : Op α, op.forTV = true →
      op.InRange →
      ((s.step op).1.isPanic = true ↔ specPanics s.xs op ∨ (s.step op).1 = .panic .overflow)) :=
  ⟨fun _ _ s hr op hs => panics_iff_iv s hr op hs,
   fun _ _ s hr op hs hi => panics_iff_tv s hr op hs hi⟩

/-- **`try_push` on a full InlineVec** hands the value back (`Err(value)`, reason `Full`) and
    leaves the vector unchanged. -/
theorem try_returns_push {cap : Nat} (s : IV α) (_hr : IVReach cap s) (v : α)
    (hfull : s.xs.length = s.cap) :
    s.step (.tryPush v) = (.err .full (.elem v), s) := by
  simp [IV.step, IV.tryPush, hfull]

/-- **`try_insert`**: an index beyond the length is reported as `OutOfBounds` *even when the
    vector is also full* (the code tests the index first); a valid index on a full vector is
    reported as `Full`; both hand the value back and leave the vector unchanged. -/
theorem try_returns_insert {cap : Nat} (s : IV α) (_hr : IVReach cap s) (i : Nat) (v : α) :
    (s.xs.length < i → s.step (.tryInsert i v) = (.err .outOfBounds (.elem v), s)) ∧
    (i ≤ s.xs.length → s.xs.length = s.cap →
      s.step (.tryInsert i v) = (.err .full (.elem v), s)) := by
  refine ⟨fun h => ?_, fun h1 h2 => ?_⟩
  · simp [IV.step, IV.tryInsert, h]
  · have : ¬ s.xs.length < i := by omega
    simp [IV.step, IV.tryInsert, h2, h2 ▸ this]

/-- **`try_` variants, general form**: whenever the capacity does not suffice for a `try_`
    operation that `Vec` would accept, the rejected value comes back with reason `Full` and the
    state is unchanged; when it suffices they behave like `Vec`. -/
theorem try_returns {cap : Nat} (s : IV α) (hr : IVReach cap s) (op : Op α) (ht : op.isTry = true) :
    (s.cap < needs s.xs op → ∃ v, appended op = [v] ∧ s.step op = (.err .full (.elem v), s)) ∧
    (needs s.xs op ≤ s.cap →
      s.step op = ((specStep s.xs op).1, ⟨s.cap, (specStep s.xs op).2⟩)) := by
  have hs : op.forIV = true := by cases op <;> simp [Op.isTry] at ht <;> rfl
  refine ⟨fun h => ?_, fun h => IV.step_spec s op hr.wf.2 hs h⟩
  rw [IV.step_full s op hr.wf.2 hs h]
  rcases s.full_cases op hr.wf.2 with ⟨_, h⟩ | ⟨hf, _⟩
  · exact h
  · rw [ht] at hf; cases hf

example : ((IV.new 1 : IV Nat).run [.push 7]).2.step (.tryInsert 5 9)
    = (.err .outOfBounds (.elem 9), ⟨1, [7]⟩) := by decide

example : ((IV.new 1 : IV Nat).run [.push 7]).2.step (.tryInsert 0 9)
    = (.err .full (.elem 9), ⟨1, [7]⟩) := by decide

/-- **After any panic an InlineVec holds its previous elements followed by a prefix of the items
    that were being appended** (nothing at all for index/range panics and for the operations that
    check the capacity up front; what fitted for `Extend::extend`), and `CAP` is unchanged. -/
theorem after_panic_prefix_iv {cap : Nat} (s : IV α) (hr : IVReach cap s) (op : Op α)
    (hs : op.forIV = true) (hp : (s.step op).1.isPanic = true) :
    ∃ pre, pre <+: appended op ∧ (s.step op).2 = ⟨s.cap, s.xs ++ pre⟩ := by
  have hw := hr.wf.2
  rw [IV.step_eq s op hw hs] at hp ⊢
  by_cases hn : needs s.xs op ≤ s.cap <;> simp only [hn, if_true, if_false] at hp ⊢
  · cases ho : (specStep s.xs op).1 with
    | panic c => exact ⟨[], List.nil_prefix, by simp [(spec_panic s.xs op c ho).2]⟩
    | ok v => simp [ho, Outcome.isPanic] at hp
    | err r v => simp [ho, Outcome.isPanic] at hp
  · rcases s.full_cases op hw with ⟨_, _, _, h⟩ | ⟨_, _, pre, h1, h2, _⟩
    · rw [h] at hp; simp [Outcome.isPanic] at hp
    · exact ⟨pre, h1, h2⟩

example : (((IV.new 2 : IV Nat).run [.push 7]).2.step (.extend 0 [1, 2, 3]))
    = (.panic .capacity, ⟨2, [7] ++ [1]⟩) := by decide

/-- **After any panic a ThinVec holds its previous elements followed by a prefix of the items that
    were being appended** (a non-empty prefix only when an iterator outgrows its size hint and the
    next `reserve(1)` overflows). -/
theorem after_panic_prefix_tv {p : TVParams} (s : TV α) (hr : TVReach p s) (op : Op α)
    (hs : op.forTV = true) (hi : op.InRange) (hp : (s.step op).1.isPanic = true) :
    ∃ pre, pre <+: appended op ∧ (s.step op).2.xs = s.xs ++ pre := by
  have sim := TV.step_sim s hr.wf.1 op hs hi
  rcases sim.res with ⟨_, pre, h1, h2⟩ | ⟨e1, e2⟩
  · exact ⟨pre, h1, h2⟩
  · cases ho : (specStep s.xs op).1 with
    | panic c => exact ⟨[], List.nil_prefix, by simp [e2, (spec_panic s.xs op c ho).2]⟩
    | ok v => rw [e1, ho] at hp; simp [Outcome.isPanic] at hp
    | err r v => rw [e1, ho] at hp; simp [Outcome.isPanic] at hp

/-- **State after a panic, both vector kinds**: the conjunction of `after_panic_prefix_iv` and
    `after_panic_prefix_tv`. -/
theorem after_panic_prefix :
    (∀ (α : Type) (cap : Nat) (s : IV α), IVReach cap s → ∀ op : Op α, op.forIV = true →
      (s.step op).1.isPanic = true →
      ∃ pre, pre <+: appended op ∧ (s.step op).2 = ⟨s.cap, s.xs ++ pre⟩) ∧
    (∀ (α : Type) (p : TVParams) (s : TV α), TVReach p s → ∀ op : Op α, op.forTV = true →
      op.InRange → (s.step op).1.isPanic = true →
      ∃ pre, pre <+: appended op ∧ (s.step op).2.xs = s.xs ++ pre) :=
  ⟨fun _ _ s hr op hs hp => after_panic_prefix_iv s hr op hs hp,
   fun _ _ s hr op hs hi hp => after_panic_prefix_tv s hr op hs hi hp⟩

example : (tv0.step (.drain (.incl 3) .unb [] .drop)).1.isPanic = true ∧
    (tv0.step (.drain (.incl 3) .unb [] .drop)).2.xs = tv0.xs ++ [] := by decide

/-- The "cannot happen" branches of the model (slot reads guaranteed by the type invariant,
    `unwrap_unchecked` of the current layout) are never taken. -/
theorem never_unreachable_iv {cap : Nat} (s : IV α) (hr : IVReach cap s) (op : Op α)
    (hs : op.forIV = true) : (s.step op).1 ≠ .panic .unreachable := by
  have hw := hr.wf.2
  rw [IV.step_eq s op hw hs]
  split
  · intro h
    have := (spec_panic s.xs op _ h).1
    simp at this
  · rcases s.full_cases op hw with ⟨_, _, _, h⟩ | ⟨_, h, _⟩ <;> rw [h] <;> simp

theorem never_unreachable_tv {p : TVParams} (s : TV α) (hr : TVReach p s) (op : Op α)
    (hs : op.forTV = true) (hi : op.InRange) : (s.step op).1 ≠ .panic .unreachable := by
  have sim := TV.step_sim s hr.wf.1 op hs hi
  rcases sim.res with ⟨e, _⟩ | ⟨e1, _⟩
  · rw [e]; simp
  · rw [e1]; intro h
    have := (spec_panic s.xs op _ h).1
    simp at this

/-- **`const_append` between inline vectors of different capacities** behaves like `Vec::append`
    under the capacity of the *destination* only: in every reachable state, if
    `len + other_len ≤ CAP` the destination gets the source's elements after its own and the
    source is left empty; otherwise it panics (class `capacity`) and BOTH vectors are untouched.
    The source's capacity `CAP2` has no influence, and the result on the destination is that of
    `append`. (The general theorems `iv_refines`, `panics_iff`, `after_panic_prefix`, `iv_cap`
    cover `Op.constAppend` like every other operation.) -/
theorem const_append_both {cap : Nat} (s : IV α) (_hr : IVReach cap s) (cap2 : Nat) (other : List α) :
    (s.xs.length + other.length ≤ s.cap →
      s.constAppend cap2 other = (.ok (.items []), ⟨s.cap, s.xs ++ other⟩, [])) ∧
    (s.cap < s.xs.length + other.length →
      s.constAppend cap2 other = (.panic .capacity, s, other)) ∧
    (∀ cap2', s.constAppend cap2' other = s.constAppend cap2 other) ∧
    ((s.constAppend cap2 other).1, (s.constAppend cap2 other).2.1) = s.append other := by
  refine ⟨fun h => ?_, fun h => ?_, fun _ => rfl, ?_⟩
  · simp [IV.constAppend, h]
  · have : ¬ s.xs.length + other.length ≤ s.cap := by omega
    simp [IV.constAppend, this]
  · by_cases h : s.xs.length + other.length ≤ s.cap <;> simp [IV.constAppend, IV.append, h]

/-- The two directions of a capacity mix-up: a 3-slot vector holding 2 elements cannot take 2
    more from a 7-slot one (panic, both unchanged); a 7-slot vector holding 3 takes 2 from a
    3-slot one. -/
example :
    (⟨3, [1, 2]⟩ : IV Nat).constAppend 7 [8, 9] = (.panic .capacity, ⟨3, [1, 2]⟩, [8, 9]) ∧
    (⟨7, [1, 2, 3]⟩ : IV Nat).constAppend 3 [8, 9] = (.ok (.items []), ⟨7, [1, 2, 3, 8, 9]⟩, []) ∧
    IVReach 3 ((IV.new 3 : IV Nat).run [.push 1, .push 2]).2 := ⟨by decide, by decide, _, rfl⟩

example : specStep [1, 2] (.constAppend 7 [8, 9] : Op Nat) = (.ok (.items []), [1, 2, 8, 9]) ∧
    needs [1, 2] (.constAppend 7 [8, 9] : Op Nat) = 4 := by decide

/-- **Filling spare capacity in place** (`spare_capacity_mut` + `set_len`): on an InlineVec it
    succeeds exactly when the values fit in `CAP - len` slots (else: caller-side capacity panic,
    nothing written); on a ThinVec, after `reserve(n)`, it appends the values and — when they
    already fitted — leaves the capacity as it was (no reallocation). -/
theorem spare_write {cap : Nat} {p : TVParams} (s : IV α) (_hr : IVReach cap s) (t : TV α)
    (ht : TVReach p t) (vals : List α) :
    (s.xs.length + vals.length ≤ s.cap →
      s.step (.spareWrite vals) = (.ok .unit, ⟨s.cap, s.xs ++ vals⟩)) ∧
    (s.cap < s.xs.length + vals.length → s.step (.spareWrite vals) = (.panic .capacity, s)) ∧
    (t.xs.length + vals.length ≤ t.cap →
      t.step (.spareWrite vals) = (.ok .unit, { t with xs := t.xs ++ vals })) := by
  refine ⟨fun h => ?_, fun h => ?_, fun h => ?_⟩
  · simp [IV.step, IV.spareWrite, IV.extendFromSlice, h]
  · have : ¬ s.xs.length + vals.length ≤ s.cap := by omega
    simp [IV.step, IV.spareWrite, IV.extendFromSlice, this]
  · have hl := ht.wf.1.len
    have : ¬ vals.length > t.cap - t.xs.length := by omega
    simp [TV.step, TV.spareWrite, TV.extendFromSlice, TV.afterReserve, TV.reserve, this]

example : tv0.step (.spareWrite [5, 6, 7]) = (.ok .unit, ⟨4, [5, 6, 7], 8, 8, 8, 8⟩) := by decide

/-- **ThinVec capacity**: in every reachable state `len ≤ capacity`; a `reserve(k)` /
    `reserve_exact(k)` that returns leaves `capacity ≥ len + k` without touching the elements
    (also right after `shrink_to_fit`, which is just another reachable state); `with_capacity(n)`
    gives `capacity ≥ n` (`usize::MAX` for zero-sized elements); `shrink_to*` never goes below
    the length. -/
theorem tv_cap {p : TVParams} (s : TV α) (hr : TVReach p s) :
    s.xs.length ≤ s.cap ∧
    (∀ k s', s.reserve k = (.ok .unit, s') → s.xs.length + k ≤ s'.cap ∧ s'.xs = s.xs) ∧
    (∀ k s', s.reserveExact k = (.ok .unit, s') → s.xs.length + k ≤ s'.cap ∧ s'.xs = s.xs) ∧
    (∀ n t, (TV.withCapacity p n : Option (TV α)) = some t →
      t.xs = [] ∧ (p.szT ≠ 0 → n ≤ t.cap) ∧ (p.szT = 0 → t.cap = usizeMax)) ∧
    (∀ n, (s.shrinkTo n).2.xs = s.xs ∧ s.xs.length ≤ (s.shrinkTo n).2.cap) ∧
    ((s.shrinkToFit).2.xs = s.xs ∧ s.xs.length ≤ (s.shrinkToFit).2.cap) := by
  have hw := hr.wf.1
  refine ⟨hw.len, fun k _ => (TV.reserve_spec s hw k).ret, fun k _ => (TV.reserveExact_spec s hw k).ret, ?_,
    fun n => (TV.step_sim s hw (.shrinkTo n) rfl trivial).keeps rfl rfl,
    (TV.step_sim s hw .shrinkToFit rfl trivial).keeps rfl rfl⟩
  intro n t h
  rcases TV.withCapacity_spec (α := α) p hr.1 n with h0 | ⟨t', h1, _, h3, _, h5, h6⟩
  · rw [h0] at h; cases h
  · rw [h1] at h; cases h; exact ⟨h3, h5, h6⟩

example : TVReach ⟨8, 8, 8, 8⟩ tv0 := tv0_reach

example : tv0.reserve 5 = (.ok .unit, ⟨8, [], 8, 8, 8, 8⟩) := by decide

/-- **InlineVec capacity**: `CAP` never changes and `len ≤ CAP` in every reachable state. -/
theorem iv_cap {cap : Nat} (s : IV α) (hr : IVReach cap s) : s.cap = cap ∧ s.xs.length ≤ cap := by
  have := hr.wf
  exact ⟨this.1, by rw [← this.1]; exact this.2⟩

/-- **`layout` is idempotent on the rounded capacity**: recomputing the layout from the capacity
    that `layout(n)` returned gives the same layout, offset and capacity. This is why
    `current_layout()` (computed from `header.cap`) is the layout the block was allocated with, so
    `realloc` / `dealloc` receive the right one; it holds for every element size and alignment
    (power of two) and every prefix size and alignment, zero-sized elements included. -/
theorem layout_idem (p : TVParams) (hp : p.Ok) (n : Nat) (L : Layout) (off c : Nat)
    (h : layout p n = some (L, off, c)) : layout p c = some (L, off, c) :=
  layout_recomputed hp h

example : layout ⟨16, 8, 8, 8⟩ 3 = some (⟨72, 8⟩, 24, 3) ∧ (⟨16, 8, 8, 8⟩ : TVParams).Ok :=
  ⟨by decide, ⟨3, by decide, rfl⟩, ⟨3, by decide, rfl⟩⟩

example : layout ⟨1, 1, 8, 8⟩ 33 = some (⟨64, 8⟩, 24, 40) ∧ layout ⟨1, 1, 8, 8⟩ 40 = some (⟨64, 8⟩, 24, 40) := by
  decide

/-- Sizes that are not the alignment, odd sizes included (the element types `b3` 3/1, `h3` 6/2,
    `w3` 12/4, `q3` 24/8, `a20` 32/16 of the differential): the hypotheses of `layout_idem` /
    `data_fits` are met by them, and the capacity really is the FLOOR of `(size − offset) / szT`
    with `szT` the element SIZE — 10 three-byte elements in the 32 bytes after a 24-byte header,
    not 11 (`div_ceil`) and not 32 (division by the alignment): either would contradict
    `data_fits` (`24 + 11 * 3 > 56`). -/
example :
    layout ⟨3, 1, 8, 8⟩ 10 = some (⟨56, 8⟩, 24, 10) ∧ layout ⟨6, 2, 8, 8⟩ 5 = some (⟨56, 8⟩, 24, 5) ∧
    layout ⟨12, 4, 8, 8⟩ 2 = some (⟨48, 8⟩, 24, 2) ∧ layout ⟨24, 8, 8, 8⟩ 1 = some (⟨48, 8⟩, 24, 1) ∧
    layout ⟨32, 16, 8, 8⟩ 1 = some (⟨64, 16⟩, 32, 1) ∧ layout ⟨3, 1, 16, 16⟩ 10 = some (⟨64, 16⟩, 32, 10) ∧
    (⟨3, 1, 8, 8⟩ : TVParams).Ok ∧ ¬ (24 + 11 * 3 ≤ 56) := by
  refine ⟨by decide, by decide, by decide, by decide, by decide, by decide,
    ⟨⟨0, by decide, rfl⟩, ⟨3, by decide, rfl⟩⟩, by decide⟩

/-- **The elements fit in the allocation and are aligned** (non-zero-sized `T`):
    `offset + capacity * size_of::<T>() ≤ layout.size`, `offset % align_of::<T>() = 0`, the
    rounded capacity is at least the requested one, and the allocation stays within
    `isize::MAX`. -/
theorem data_fits (p : TVParams) (hp : p.Ok) (n : Nat) (L : Layout) (off c : Nat)
    (h : layout p n = some (L, off, c)) (hz : p.szT ≠ 0) :
    off + c * p.szT ≤ L.size ∧ off % p.alT = 0 ∧ n ≤ c ∧ L.size + L.align ≤ 2 ^ 63 := by
  have h1 := layout_fits hp h hz
  have h2 := layout_ge_nz hp h hz
  have h3 := layout_size_le hp h
  have h4 : L.align = layoutAlign p := by rw [(layout_some h).2.2.2.1]
  exact ⟨h1.1, h1.2, h2.1, by rw [h4]; exact h3.2⟩

example : layout ⟨64, 64, 8, 8⟩ 1 = some (⟨128, 64⟩, 64, 1) := by decide

/-- **Zero-sized elements**: the capacity is `usize::MAX` whatever was asked, the allocation is
    the padded header only, and the offset is still aligned. -/
theorem data_fits_zst (p : TVParams) (_hp : p.Ok) (n : Nat) (L : Layout) (off c : Nat)
    (h : layout p n = some (L, off, c)) (hz : p.szT = 0) :
    c = usizeMax ∧ L.size = roundUp (dataOffset p) (layoutAlign p) ∧ off % p.alT = 0 := by
  have h1 := layout_zst h hz
  refine ⟨h1.1, h1.2, ?_⟩
  rw [(layout_some h).2.1]; exact roundUp_mod _ _

example : layout ⟨0, 1, 8, 8⟩ 5 = some (⟨24, 8⟩, 24, 2 ^ 64 - 1) := by decide

end HipVerif.Props.C13
