/-
C04 (and C02) — source-order protocol of the functions that juggle a heap descriptor.

`Gen.Protocol.fns` is REGENERATED from src/bytes/raw.rs, src/bytes/raw/allocated.rs and
src/bytes.rs: for every control-flow path of `make_unique`, `take_vec`, `Drop`, `explicit_clone`,
`slice_unchecked`, `try_into_vec`, `as_mut_slice`, `spare_capacity_mut`, `push_slice(_unchecked)`,
`shrink_to`, `truncate` it lists, in source order, the uniqueness tests, payload reads and writes,
count operations, releases of the share and moves of the descriptor.  The release/acquire model of
`Model/Conc.lean` (theorems of `Props/C04.lean`) quantifies over thread programs built from
`read`, `clone`, `mutate`-after-a-successful-uniqueness-test, `unwrap` and `drop`.  A function is
taken to be such a program when each of its paths is LEGAL — no access to the payload or the count
after the share has been released, no write before a uniqueness test.  This link between `legal`
paths and the thread programs of the model is reviewed, not proved: no theorem relates the two.
-/
import HipVerif.Gen.Protocol

namespace HipVerif.Props.C04
open HipVerif.ProtocolTy

/-- Every path of every descriptor-juggling function is a legal share-holder program: the bytes
are copied BEFORE the share is released (`make_unique`, `take_vec`, `shrink_to`, `truncate`,
`push_slice`), writes come only after a uniqueness test, nothing touches the buffer after the
release. -/
theorem protocol_legal : ∀ f ∈ Gen.Protocol.fns, legal f = true := by decide

/-- the table is not empty and covers the copy-on-write path -/
theorem protocol_covers_make_unique :
    (Gen.Protocol.fns.any fun f => f.fn_ == "HipByt::make_unique [Tag::Allocated]" &&
      f.paths.any (fun p => p.contains .read && p.contains .release)) = true := by decide

/-! Non-vacuity: releasing the share before copying the bytes (the order a careless edit of
`make_unique` produces — it still compiles because the descriptor is `Copy`) is rejected. -/

example : legalFrom false false false [.testUnique, .moveOut, .release, .read, .read, .assignSelf] = false := by
  decide

example : legalFrom false false false [.testUnique, .moveOut, .read, .read, .release, .assignSelf] = true := by
  decide

/-- a write without a uniqueness test is rejected, unless the function assumes uniqueness -/
example : legalFrom false false false [.write] = false ∧ legalFrom false true false [.write] = true := by decide

end HipVerif.Props.C04
