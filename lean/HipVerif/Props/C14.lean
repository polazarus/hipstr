/-
C14 — Container element lifecycle and buffer bounds (InlineVec, ThinVec), on the L0 slot model
(`HipVerif/Model/Slots*.lean`, tied to /repo/src/vecs by the `slotdrive` differential).

`Own s` (Lemmas/Slots.lean): the ids held in slots `[0, len)` of the live container and its live
prefix value are pairwise distinct, were all created (`< next`), none of them has been dropped or
handed to the caller (`out`); `out` has no duplicates and is exactly the list of ids of the
drop/return events of the trace; the monitor has recorded no violation; a live ThinVec owns a
live buffer and its capacity is a fixed point of the capacity rounding. Every other id ever
created is therefore either out (dropped/returned, once) or leaked.
-/
import HipVerif.Lemmas.SlotsStep
namespace HipVerif.Props.C14
open HipVerif.Slots

/-- Every InlineVec/ThinVec operation of the model (push … drain, into_iter, split_off, the
`from_mut_vector` conversions, container drop), with a user-callback panic injected at any point or
not at all, keeps the ownership invariant: after the call (normal return or unwinding) every
element the container or nobody else claims is owned exactly once. -/
theorem own_step {s : St} (k : Option Nat) (op : Op) (h : Own s) : Own (step k op s).2 :=
  step_own k op h

/-- The ownership invariant holds after every finite history of operations and injected faults. -/
theorem own_run {s : St} (hist : List (Option Nat × Op)) (h : Own s) : Own (run hist s) :=
  run_own hist s h

/-- No reachable trace contains a monitor violation: no id is dropped or returned twice, no slot
is dropped or read while uninitialised, no write lands beyond the capacity, no buffer is freed
twice — whatever the history, the faults, the leaked iterators. -/
theorem no_violation {s : St} (h : Own s) (hist : List (Option Nat × Op)) :
    ∀ e ∈ (run hist s).mem.trace, e.bad = false :=
  (run_safe h hist).2.2

/-- `InlineVec::<_, cap>::new()` followed by any history never violates the element lifecycle. -/
theorem inline_no_violation (cap : Nat) (hist : List (Option Nat × Op)) :
    ∀ e ∈ (run hist (initInline cap)).mem.trace, e.bad = false :=
  no_violation (own_initInline cap) hist

/-- `ThinVec::<T, P>::new()` (any non-zero element size, marker or drop-tracked prefix) followed by
any history never violates the element lifecycle. -/
theorem thin_no_violation (esz : Nat) (tracked : Bool) (hpos : 0 < esz)
    (hist : List (Option Nat × Op)) :
    ∀ e ∈ (run hist (initThin esz tracked)).mem.trace, e.bad = false :=
  no_violation (own_initThin esz tracked hpos) hist

/-- No element is ever dropped (or handed back) twice. -/
theorem never_double_drop {s : St} (h : Own s) (hist : List (Option Nat × Op)) (a : Nat) :
    Ev.doubleDrop a ∉ (run hist s).mem.trace :=
  fun hm => by simpa [Ev.bad] using no_violation h hist _ hm

/-- No never-initialised slot is ever dropped. -/
theorem never_drop_uninit {s : St} (h : Own s) (hist : List (Option Nat × Op)) :
    Ev.dropUninit ∉ (run hist s).mem.trace :=
  fun hm => by simpa [Ev.bad] using no_violation h hist _ hm

/-- No never-initialised slot (or dead element) is ever cloned from or moved out. -/
theorem never_read_uninit {s : St} (h : Own s) (hist : List (Option Nat × Op)) :
    Ev.readUninit ∉ (run hist s).mem.trace :=
  fun hm => by simpa [Ev.bad] using no_violation h hist _ hm

/-- ThinVec (and InlineVec) never write an element beyond the allocated capacity — in particular
`extend_from_within` on a full ThinVec reserves first. -/
theorem writes_in_cap {s : St} (h : Own s) (hist : List (Option Nat × Op)) :
    Ev.oob ∉ (run hist s).mem.trace :=
  fun hm => by simpa [Ev.bad] using no_violation h hist _ hm

/-- No buffer is ever freed twice. -/
theorem never_double_free {s : St} (h : Own s) (hist : List (Option Nat × Op)) (b : Nat) :
    Ev.doubleFree b ∉ (run hist s).mem.trace :=
  fun hm => by simpa [Ev.bad] using no_violation h hist _ hm

/-- With leaks and faults allowed: in every reachable trace every id is the subject of at most one
drop-or-return event. -/
theorem at_most_once {s : St} (h : Own s) (hist : List (Option Nat × Op)) (a : Nat) :
    ((run hist s).mem.trace.filterMap Ev.outId).count a ≤ 1 := by
  obtain ⟨_, _, ha⟩ := (own_run hist h).elim
  exact ha.count_out_le_one a

/-- After the final container drop (no fault injected, no destructor panic) every id that the
container still owned — elements and the drop-tracked prefix value — has been dropped, and by
`at_most_once` exactly once. -/
theorem drop_completes {s : St} (hal : s.v.h.alive = true)
    (hr : (step none .dropVec s).1 = .unit) :
    (∀ a, .init a ∈ s.v.range 0 s.v.len → a ∈ (step none .dropVec s).2.mem.out) ∧
    (s.v.h.thin = true → s.v.h.tracked = true → ∀ p, s.v.h.pref = .init p →
      p ∈ (step none .dropVec s).2.mem.out) ∧
    (s.v.h.thin = true → s.mem.bufs.Nodup → s.v.h.buf ∉ (step none .dropVec s).2.mem.bufs) := by
  unfold step at hr ⊢
  simp only [hal, if_true] at hr ⊢
  by_cases ht : s.v.h.thin = true
  · simp only [ht, if_true, tStep, liftB, boolRet] at hr ⊢
    have hp : (tDrop { s with mem := { s.mem with budget := none } }).1 = false := by
      cases hq : (tDrop { s with mem := { s.mem with budget := none } }).1
      · rfl
      · rw [hq] at hr; simp at hr
    unfold tDrop at hp ⊢
    obtain ⟨c1, c2, c3⟩ := tDropVec_complete (o := s.v)
      (s := { s with mem := { s.mem with budget := none } }) hp
    exact ⟨c1, fun _ htr => c2 htr, fun _ hnd => c3 hnd⟩
  · simp only [ht, Bool.false_eq_true, if_false, iStep, liftB, boolRet] at hr ⊢
    have hp : (iDrop { s with mem := { s.mem with budget := none } }).1 = false := by
      cases hq : (iDrop { s with mem := { s.mem with budget := none } }).1
      · rfl
      · rw [hq] at hr; simp at hr
    refine ⟨fun a ha => iDrop_complete hp ha, fun h => h.elim, fun h => h.elim⟩

/-- The part of `exactly_once` (below) that needs no assumption on the history: everything the
container owns at the time of the final drop — its elements and its drop-tracked prefix — is
dropped exactly once by it, and nothing was dropped or returned twice before. -/
theorem exactly_once_partial {s : St} (h : Own s) (hal : s.v.h.alive = true)
    (hr : (step none .dropVec s).1 = .unit) (a : Nat)
    (ha : .init a ∈ s.v.range 0 s.v.len ∨
      (s.v.h.thin = true ∧ s.v.h.tracked = true ∧ s.v.h.pref = .init a)) :
    ((step none .dropVec s).2.mem.trace.filterMap Ev.outId).count a = 1 := by
  obtain ⟨c1, c2, -⟩ := drop_completes hal hr
  have hmem : a ∈ (step none .dropVec s).2.mem.out := by
    rcases ha with ha | ⟨h1, h2, h3⟩
    · exact c1 a ha
    · exact c2 h1 h2 a h3
  obtain ⟨_, _, hacc⟩ := (own_step none .dropVec h).elim
  exact hacc.count_out_eq_one hmem

/-- The no-leak invariant `OwnF` (ownership invariant + "no fault armed, every id created so far
is held by the container — slot below `len` or live prefix — or already dropped / handed to the
caller") is preserved by every operation that does not leak by design (everything except a
`mem::forget`-ed `Drain`/`IntoIter`) when no fault is injected — including the paths on which the
operation's own assertion panics. In the model no fault-free path leaks. -/
theorem no_leak_step {s : St} (op : Op) (h : OwnF s) (hleak : op.leaks = false) :
    OwnF (step none op s).2 :=
  step_ownF op h hleak

/-- The no-leak invariant holds after every fault-free, leak-free history. -/
theorem no_leak_run {s : St} (hist : List (Option Nat × Op)) (h : OwnF s) (hc : CleanHist hist) :
    OwnF (run hist s) :=
  run_ownF hist s h hc

/-- **exactly_once.** Along a history with no leak operation and no injected fault, after the final
container drop every id ever created — element values made by the caller, clones, generated and
iterated values, and every prefix value (also those of the temporary vectors of `clone`,
`split_off` and of the `from_mut_vector` conversions) — has been dropped exactly once or handed
to the caller exactly once: the numbers of its `drop` and `ret` events add up to 1. -/
theorem exactly_once {s₀ : St} (h0 : OwnF s₀) (hist : List (Option Nat × Op))
    (hc : CleanHist hist) (hal : (run hist s₀).v.h.alive = true) (a : Nat)
    (ha : a < (step none .dropVec (run hist s₀)).2.mem.next) :
    (step none .dropVec (run hist s₀)).2.mem.trace.count (.drop a) +
      (step none .dropVec (run hist s₀)).2.mem.trace.count (.ret a) = 1 := by
  rw [← count_outId]
  exact (all_out_after_drop (no_leak_run hist h0 hc) hal).1 a ha

/-- The same, phrased on the trace alone: every id that some event of the final trace created
(`mk a`: a value made by the caller, a generator, an iterator or `P::default()`; `clone _ a`) has
exactly one drop-or-return event. In particular every prefix value ever created is accounted for
exactly once. -/
theorem every_created_once {s₀ : St} (h0 : OwnF s₀) (hist : List (Option Nat × Op))
    (hc : CleanHist hist) (hal : (run hist s₀).v.h.alive = true) (e : Ev) (a : Nat)
    (he : e ∈ (step none .dropVec (run hist s₀)).2.mem.trace) (hn : e.newId = some a) :
    (step none .dropVec (run hist s₀)).2.mem.trace.count (.drop a) +
      (step none .dropVec (run hist s₀)).2.mem.trace.count (.ret a) = 1 :=
  exactly_once h0 hist hc hal a
    ((all_out_after_drop (no_leak_run hist h0 hc) hal).2 e he a hn)

/-- `exactly_once` from `InlineVec::<_, cap>::new()`. -/
theorem inline_exactly_once (cap : Nat) (hist : List (Option Nat × Op)) (hc : CleanHist hist)
    (hal : (run hist (initInline cap)).v.h.alive = true) (a : Nat)
    (ha : a < (step none .dropVec (run hist (initInline cap))).2.mem.next) :
    (step none .dropVec (run hist (initInline cap))).2.mem.trace.count (.drop a) +
      (step none .dropVec (run hist (initInline cap))).2.mem.trace.count (.ret a) = 1 :=
  exactly_once (ownF_initInline cap) hist hc hal a ha

/-- `exactly_once` from `ThinVec::<T, P>::new()`, marker or drop-tracked prefix: the initial prefix
value (id 0 when tracked) and every later one are dropped exactly once. -/
theorem thin_exactly_once (esz : Nat) (tracked : Bool) (hpos : 0 < esz)
    (hist : List (Option Nat × Op)) (hc : CleanHist hist)
    (hal : (run hist (initThin esz tracked)).v.h.alive = true) (a : Nat)
    (ha : a < (step none .dropVec (run hist (initThin esz tracked))).2.mem.next) :
    (step none .dropVec (run hist (initThin esz tracked))).2.mem.trace.count (.drop a) +
      (step none .dropVec (run hist (initThin esz tracked))).2.mem.trace.count (.ret a) = 1 :=
  exactly_once (ownF_initThin esz tracked hpos) hist hc hal a ha

/-- The default prefix value of a ThinVec is written into fresh memory without any drop (the
construction trace is exactly "allocate, create the value") and, when the vector is dropped without
a destructor panic, it is dropped exactly once. -/
theorem prefix_once {s : St} (h : Own s) (hal : s.v.h.alive = true) (ht : s.v.h.thin = true)
    (htr : s.v.h.tracked = true) (hr : (step none .dropVec s).1 = .unit) :
    ∃ p, s.v.h.pref = .init p ∧
      ((step none .dropVec s).2.mem.trace.filterMap Ev.outId).count p = 1 := by
  obtain ⟨p, hp⟩ := h.hdrOk.1 ht htr hal
  exact ⟨p, hp, exactly_once_partial h hal hr p (Or.inr ⟨ht, htr, hp⟩)⟩

/-- A live ThinVec owns a live buffer; the final drop (without destructor panic) releases it, and
no buffer is ever released twice (`never_double_free`): the buffer is freed exactly once. -/
theorem buffer_freed_once {s : St} (h : Own s) (hal : s.v.h.alive = true) (ht : s.v.h.thin = true)
    (hr : (step none .dropVec s).1 = .unit) :
    s.v.h.buf ∈ s.mem.bufs ∧ s.v.h.buf ∉ (step none .dropVec s).2.mem.bufs := by
  obtain ⟨_, _, hacc⟩ := h.elim
  exact ⟨hacc.blive _ (by simp [bufL, ht, hal]), (drop_completes hal hr).2.2 ht hacc.bufsnd⟩

/-- a reachable InlineVec state with elements, after an injected fault -/
example : Own (run [(none, .push), (none, .push), (some 1, .resize 3)] (initInline 3)) :=
  own_run _ (own_initInline 3)
example : (run [(none, .push), (none, .push), (some 1, .resize 3)] (initInline 3)).v.len = 3 := by
  decide
example : (step (some 1) (.resize 3) (run [(none, .push), (none, .push)] (initInline 3))).1
    = .panic := by decide

/-- construction of a ThinVec with a drop-tracked prefix: allocate, create the prefix; no drop -/
example : (initThin 8 true).mem.trace = [.mk 0, .allocBuf 0] := by decide
example : (initThin 8 true).v.h.pref = .init 0 := by decide

/-- `extend_from_within(..)` on a full ThinVec (len = cap = 4): reserves, 8 elements, no `oob` -/
example :
    let s := run [(none, .push), (none, .push), (none, .push), (none, .push), (none, .extWithin 0 4)]
      (initThin 8 true)
    s.v.len = 8 ∧ s.v.cap = 8 ∧ Ev.oob ∉ s.mem.trace := by decide

/-- the hypotheses of `exactly_once_partial` / `prefix_once` / `buffer_freed_once` are satisfiable -/
example :
    let s := run [(none, .push), (none, .push)] (initThin 8 true)
    s.v.h.alive = true ∧ s.v.h.thin = true ∧ s.v.h.tracked = true ∧
      (step none .dropVec s).1 = .unit ∧ (step none .dropVec s).2.mem.bufs = [] := by decide

/-- `exactly_once` is not vacuous: a fault-free leak-free history with clones, a conversion (two
prefix values dropped on the way, a third created), a split and a drain; 11 ids were created and
every one of them has exactly one drop/return event after the final drop -/
example :
    let hist : List (Option Nat × Op) :=
      [(none, .push), (none, .push), (none, .extWithin 0 2), (none, .roundtrip), (none, .splitOff 3),
       (none, .clone), (none, .drain 0 2 [.back] .drop), (none, .pop)]
    CleanHist hist ∧ (run hist (initThin 8 true)).v.h.alive = true ∧
      (step none .dropVec (run hist (initThin 8 true))).2.mem.next = 11 ∧
      (List.range 11).all (fun a =>
        (step none .dropVec (run hist (initThin 8 true))).2.mem.trace.count (.drop a) +
          (step none .dropVec (run hist (initThin 8 true))).2.mem.trace.count (.ret a) == 1) := by
  intro hist
  decide

/-- `exactly_once` covers the iterator's provided methods: pulls by `nth` / `nth_back` (skipped
items are dropped), then `count`, `fold`, `last` or `rfold` instead of a plain drop — 8 ids, each
with exactly one drop/return event -/
example :
    let hist : List (Option Nat × Op) :=
      [(none, .push), (none, .push), (none, .push), (none, .push),
       (none, .drain 0 2 [.nth 1] .count), (none, .push), (none, .drain 1 3 [] .fold),
       (none, .push), (none, .push), (none, .intoIter [.nthBack 1] .last), (none, .push)]
    CleanHist hist ∧ (run hist (initInline 4)).v.h.alive = true ∧
      (step none .dropVec (run hist (initInline 4))).2.mem.next = 8 ∧
      (List.range 8).all (fun a =>
        (step none .dropVec (run hist (initInline 4))).2.mem.trace.count (.drop a) +
          (step none .dropVec (run hist (initInline 4))).2.mem.trace.count (.ret a) == 1) := by
  intro hist
  decide

end HipVerif.Props.C14
