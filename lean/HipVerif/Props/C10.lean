/-
C10 — concat/join/repeat equal std and never expose bytes the caller did not supply.

`Gen.Concat` (which assertions guard the copy pass) is REGENERATED from src/bytes.rs on every
run; the adversarial theorems are instantiated with it, so removing an assertion from the
source breaks `concat_checks_present` / `join_checks_present` by name.
(`repeat` is an operation of the Core state machine: its agreement with std is part of the
C01 refinement.)
-/
import HipVerif.Gen.Concat
import HipVerif.Lemmas.Concat

namespace HipVerif.Props.C10
open HipVerif.Concat HipVerif.ConcatTy

/-- The source of `concat` guards every copy and checks that the copy pass filled the buffer. -/
theorem concat_checks_present :
    Gen.Concat.concat.perPiece ≥ 1 ∧ Gen.Concat.concat.finalEq = true := by decide

/-- The source of `join` guards its three copies and checks that the copy pass filled the buffer. -/
theorem join_checks_present :
    Gen.Concat.join.perPiece ≥ 3 ∧ Gen.Concat.join.finalEq = true := by decide

/-- The separator of `join`, `join_slices` and `HipStr::join` is read through `AsRef` exactly ONCE (the
length pass and the copy pass use the same slice): a separator whose `as_ref()` answers differently
on successive calls cannot make the buffer be sized with one answer and filled with another. (The
model's `join` takes the separator as a plain byte list — this is the fact that justifies it.) -/
theorem sep_evaluated_once :
    Gen.Concat.join.sepEvals = 1 ∧ Gen.Concat.joinSlices.sepEvals = 1 ∧ Gen.Concat.strJoin.sepEvals = 1 := by
  decide

/-- `concat` with ANY iterator / `Clone` / `AsRef` misbehaviour (`ps₁` seen by the length pass,
`ps₂` by the copy pass): the call returns the empty value when the announced length is zero,
and otherwise either panics or returns exactly the concatenation of the pieces actually copied
— and then those pieces have exactly the announced total length. -/
theorem concat_adversarial (icap : Nat) (ps₁ ps₂ : List (List UInt8)) :
    (total ps₁ = 0 → concat Gen.Concat.concat icap ps₁ ps₂ = .value [] false) ∧
    (total ps₁ ≠ 0 →
      concat Gen.Concat.concat icap ps₁ ps₂ = .panic ∨
      (concat Gen.Concat.concat icap ps₁ ps₂ =
          .value (ps₂.flatten.map some) (decide (total ps₁ > icap)) ∧ total ps₂ = total ps₁)) := by
  rw [concat_eq _ concat_checks_present.1 concat_checks_present.2]
  exact Out.ite_cases _ _

private theorem concat_clean (icap : Nat) (ps₁ ps₂ : List (List UInt8)) :
    (concat Gen.Concat.concat icap ps₁ ps₂).Clean := by
  rw [concat_eq _ concat_checks_present.1 concat_checks_present.2]
  exact Out.clean_ite _ _

/-- No byte of a returned value is uninitialised (every slot of the value is `some`); that the bytes
are the ones of the copy pass is `concat_adversarial`. -/
theorem concat_no_uninit (icap : Nat) (ps₁ ps₂ : List (List UInt8)) (bs : List (Option UInt8)) (hp : Bool)
    (h : concat Gen.Concat.concat icap ps₁ ps₂ = .value bs hp) : ∀ b ∈ bs, b.isSome = true :=
  (concat_clean icap ps₁ ps₂).2 bs hp h

/-- `concat` never writes past its buffer. -/
theorem concat_no_oob (icap : Nat) (ps₁ ps₂ : List (List UInt8)) :
    concat Gen.Concat.concat icap ps₁ ps₂ ≠ .oob :=
  (concat_clean icap ps₁ ps₂).1

/-- With a well-behaved iterator `concat` returns what std's `[pieces].concat()` returns, in
normalised representation (heap exactly when longer than the inline capacity). -/
theorem concat_consistent (icap : Nat) (ps : List (List UInt8)) :
    concat Gen.Concat.concat icap ps ps =
      .value ((specConcat ps).map some) (decide ((specConcat ps).length > icap)) := by
  rw [concat_eq _ concat_checks_present.1 concat_checks_present.2, specConcat, ← total_eq_flatten_length]
  by_cases h0 : total ps = 0
  · have : ps.flatten = [] :=
      List.eq_nil_of_length_eq_zero (by rw [← total_eq_flatten_length]; exact h0)
    simp [h0, this]
  · rw [if_neg h0, if_pos rfl]

/-- `join` with ANY misbehaviour (different pieces, fewer or more items on the second traversal):
empty value when the first traversal saw no item; otherwise a panic, or exactly the pieces
actually copied joined by the separator, whose total length then is the announced one. -/
theorem join_adversarial (icap : Nat) (ps₁ ps₂ : List (List UInt8)) (sep : List UInt8) :
    (ps₁ = [] → join Gen.Concat.join icap ps₁ ps₂ sep = .value [] false) ∧
    (ps₁ ≠ [] →
      let newLen := (ps₁.length - 1) * sep.length + total ps₁
      join Gen.Concat.join icap ps₁ ps₂ sep = .panic ∨
      (join Gen.Concat.join icap ps₁ ps₂ sep =
          .value ((specJoin ps₂ sep).map some) (decide (newLen > icap)) ∧
        total (joinChunks sep ps₂) = newLen)) := by
  rw [join_eq _ join_checks_present.1 join_checks_present.2]
  exact Out.ite_cases _ _

private theorem join_clean (icap : Nat) (ps₁ ps₂ : List (List UInt8)) (sep : List UInt8) :
    (join Gen.Concat.join icap ps₁ ps₂ sep).Clean := by
  rw [join_eq _ join_checks_present.1 join_checks_present.2]
  exact Out.clean_ite _ _

/-- `join` never exposes an uninitialised byte. -/
theorem join_no_uninit (icap : Nat) (ps₁ ps₂ : List (List UInt8)) (sep : List UInt8)
    (bs : List (Option UInt8)) (hp : Bool)
    (h : join Gen.Concat.join icap ps₁ ps₂ sep = .value bs hp) : ∀ b ∈ bs, b.isSome = true :=
  (join_clean icap ps₁ ps₂ sep).2 bs hp h

/-- `join` never writes past its buffer. -/
theorem join_no_oob (icap : Nat) (ps₁ ps₂ : List (List UInt8)) (sep : List UInt8) :
    join Gen.Concat.join icap ps₁ ps₂ sep ≠ .oob :=
  (join_clean icap ps₁ ps₂ sep).1

/-- With a well-behaved iterator `join` returns what std's `[pieces].join(sep)` returns, in
normalised representation. -/
theorem join_consistent (icap : Nat) (ps : List (List UInt8)) (sep : List UInt8) :
    join Gen.Concat.join icap ps ps sep =
      .value ((specJoin ps sep).map some) (decide ((specJoin ps sep).length > icap)) := by
  rw [join_eq _ join_checks_present.1 join_checks_present.2]
  by_cases h0 : ps = []
  · subst h0; rfl
  · -- a consistent traversal cannot panic: the chunks add up to the announced length
    have hl : (specJoin ps sep).length = (ps.length - 1) * sep.length + total ps := by
      rw [specJoin, ← joinChunks_flatten, ← total_eq_flatten_length, total_joinChunks sep ps h0]
    rw [if_neg h0, hl]
    exact if_pos (total_joinChunks sep ps h0)

/-! Non-vacuity: the adversarial theorems are about real misbehaviour.  A second pass that is
SHORTER than announced panics (without the final check it exposes uninitialised memory: last
example); a longer one panics; one with the same total but different content returns the second-pass
bytes. -/

example : concat Gen.Concat.concat 23 [[1, 2]] [[1]] = .panic := by decide +kernel
example : concat Gen.Concat.concat 23 [[1]] [[1, 2]] = .panic := by decide +kernel
example : concat Gen.Concat.concat 23 [[1, 2]] [[7], [8]] = .value [some 7, some 8] false := by decide +kernel
example : join Gen.Concat.join 23 [[1], [2]] [[1]] [9] = .panic := by decide +kernel
example : join Gen.Concat.join 23 [[1], [2]] [] [9] = .panic := by decide +kernel
example : join Gen.Concat.join 23 [[1], [2]] [[5], [6]] [9] = .value [some 5, some 9, some 6] false := by decide +kernel
/-- without the final check the shorter second pass WOULD expose an uninitialised byte -/
example : concat { perPiece := 1, finalEq := false, loc := "" } 23 [[1, 2]] [[1]] = .value [some 1, none] false := by
  decide +kernel

end HipVerif.Props.C10
