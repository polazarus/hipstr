/-
C13 (continued) — the SLOT-level model of InlineVec / ThinVec (Model/Slots*.lean, the model that
follows the Rust code statement by statement and that C14/C15 are proved about) computes what the
LIST-level model (Model/Vecs.lean) computes, hence — by `iv_refines` / `tv_refines` of C13 — what
`Vec` does.

Abstraction: `absL s` = the ids in the live slots below `len`, in order; `absIV s` / `absTV alT s`
add the capacity (and the type parameters the list model's capacity rule needs).

Operation mapping (`toIVOp`, `toTVOp`): the values a slot operation creates are the fresh ids
`next, next+1, …` of its start state, and the list operation is given exactly these ids — also
for clones (`resize`, `extend_from_slice`, `extend_from_within`: the appended ids are the fresh
clone ids; that they are clones of the right sources is what the `clone` events of the slot trace
record, it is not restated here). Without counterpart and therefore excluded:
  * fault arming (`step (some k)`), the container drop;
  * InlineVec: `reserve`/`shrink_fit` (not an InlineVec operation);
  * ThinVec: `try_push`, `try_insert`, `resize_with`, `into_iter`, `clone` (not ThinVec
    operations in the list model; the slot `clone` is `ThinVec::from(v.as_slice())` on a
    temporary), `roundtrip` on more than 16 elements (the slot model's intermediate
    `InlineVec<_, 16>`).
Leaked `Drain`s and leaked/dropped `IntoIter`s ARE covered (the list model has them); the values a
drain/into_iter yields are compared only through the final contents (the slot model hands them
out as `ret` events, not as a returned list).
ThinVec scope (`Small`): the slot model has unbounded capacities and does not model the
"capacity overflow" panics; the comparison holds while capacities and arguments stay below 2^40.
-/
import HipVerif.Lemmas.SlotsRefineRun
import HipVerif.Props.C13
namespace HipVerif.Props.C13
open HipVerif.Slots
open HipVerif.Vecs (IV TV Outcome specRun IVFits TVQuiet)

/-- One fault-free InlineVec operation of the slot model, from any state satisfying the ownership
invariant: the returned value (popped/removed id, `Ok`/`Err(value)` of the `try_` operations,
panic) is the list model's, panics happen exactly where the list model panics (index, range, and
the InlineVec capacity rule), and the contents afterwards are the list model's. -/
theorem slot_model_matches_list_iv {s : St} (op : Op) (vop : Vecs.Op Nat) (h : Own s)
    (hth : s.v.h.thin = false) (hal : s.v.h.alive = true) (hmap : toIVOp s op = some vop) :
    retMatch (step none op s).1 ((absIV s).step vop).1 ∧
    absIV (step none op s).2 = ((absIV s).step vop).2 :=
  ⟨(slots_refine_iv op vop h hth hal hmap).1, (slots_refine_iv op vop h hth hal hmap).2.1⟩

/-- The same for ThinVec, including the capacity: `capacity()` of the slot model after the step is
the list model's (growth policy `max(required, 2*cap)`, layout rounding, `MINIMAL_CAPACITY`). -/
theorem slot_model_matches_list_tv {s : St} (alT : Nat) (op : Op) (vop : Vecs.Op Nat) (h : Own s)
    (hth : s.v.h.thin = true) (hal : s.v.h.alive = true) (ha : AlignOk alT) (hsm : Small s op)
    (hmap : toTVOp s op = some vop) :
    retMatch (step none op s).1 ((absTV alT s).step vop).1 ∧
    absTV alT (step none op s).2 = ((absTV alT s).step vop).2 :=
  ⟨(slots_refine_tv alT op vop h hth hal ha hsm hmap).1,
    (slots_refine_tv alT op vop h hth hal ha hsm hmap).2.1⟩

/-- Whole fault-free InlineVec histories: returned values step by step and final contents of the
slot model are those of the list model. -/
theorem slots_run_refines_list_iv {s : St} (ops : List Op) (vops : List (Vecs.Op Nat))
    (h : Own s) (hth : s.v.h.thin = false) (hal : s.v.h.alive = true)
    (hm : ivHist s ops = some vops) :
    retsMatch (runQ ops s).1 ((absIV s).run vops).1 ∧
      absIV (runQ ops s).2 = ((absIV s).run vops).2 :=
  slots_run_refines_iv ops s vops h hth hal hm

/-- Whole fault-free ThinVec histories (within the `Small` scope). -/
theorem slots_run_refines_list_tv {s : St} (alT : Nat) (ha : AlignOk alT) (ops : List Op)
    (vops : List (Vecs.Op Nat)) (h : Own s) (hth : s.v.h.thin = true)
    (hal : s.v.h.alive = true) (hsm : SmallHist s ops) (hm : tvHist s ops = some vops) :
    retsMatch (runQ ops s).1 ((absTV alT s).run vops).1 ∧
      absTV alT (runQ ops s).2 = ((absTV alT s).run vops).2 :=
  slots_run_refines_tv alT ha ops s vops h hth hal hsm hm

/-- **The slot-level InlineVec computes `Vec`'s contents**: along a fault-free history whose
operations never need more than `CAP` elements, the ids in the live slots are what `Vec` holds. -/
theorem slot_model_matches_vec_iv {s : St} (ops : List Op) (vops : List (Vecs.Op Nat)) (h : Own s)
    (hth : s.v.h.thin = false) (hal : s.v.h.alive = true) (hm : ivHist s ops = some vops)
    (hfit : IVFits s.v.cap (absL s) vops) :
    absL (runQ ops s).2 = (specRun (absL s) vops).2 ∧
      retsMatch (runQ ops s).1 (specRun (absL s) vops).1 := by
  obtain ⟨r1, r2⟩ := slots_run_refines_iv ops s vops h hth hal hm
  have hle : (absIV s).xs.length ≤ (absIV s).cap := by
    have := h.view.len_le; simpa [absIV] using this
  obtain ⟨c1, c2⟩ := iv_refines (absIV s) hle vops hfit
  rw [c1] at r1
  rw [c2] at r2
  exact ⟨by have := congrArg IV.xs r2; simpa [absIV] using this, r1⟩

/-- **The slot-level ThinVec computes `Vec`'s contents** along fault-free histories without
capacity overflow (C13's `TVQuiet`), from a state whose list-level image is well-formed. -/
theorem slot_model_matches_vec_tv {s : St} (alT : Nat) (ha : AlignOk alT) (ops : List Op)
    (vops : List (Vecs.Op Nat)) (h : Own s) (hth : s.v.h.thin = true) (hal : s.v.h.alive = true)
    (hsm : SmallHist s ops) (hm : tvHist s ops = some vops) (hw : (absTV alT s).Wf)
    (hq : TVQuiet (absTV alT s) vops) :
    absL (runQ ops s).2 = (specRun (absL s) vops).2 ∧
      retsMatch (runQ ops s).1 (specRun (absL s) vops).1 := by
  obtain ⟨r1, r2⟩ := slots_run_refines_tv alT ha ops s vops h hth hal hsm hm
  obtain ⟨c1, c2⟩ := tv_refines (absTV alT s) hw vops hq
  rw [c1] at r1
  have := congrArg TV.xs r2
  rw [c2] at this
  exact ⟨by simpa [absTV] using this, r1⟩

/-- `len ≤ capacity()` along every fault-free history, and the ThinVec capacity of the slot model
is the list model's capacity at the end of every fault-free history in scope. -/
theorem slots_len_cap {s : St} (alT : Nat) (ha : AlignOk alT) (ops : List Op)
    (vops : List (Vecs.Op Nat)) (h : Own s) (hth : s.v.h.thin = true) (hal : s.v.h.alive = true)
    (hsm : SmallHist s ops) (hm : tvHist s ops = some vops) :
    (runQ ops s).2.v.len ≤ (runQ ops s).2.v.cap ∧
      (runQ ops s).2.v.cap = ((absTV alT s).run vops).2.cap := by
  refine ⟨slots_len_le_cap h ops, ?_⟩
  have := congrArg TV.cap (slots_run_refines_tv alT ha ops s vops h hth hal hsm hm).2
  simpa [absTV] using this

/-- the initial states of the two models correspond -/
example : absIV (initInline 3) = IV.new 3 := by decide
example : absTV 8 (initThin 8 true) = HipVerif.Vecs.tv0 := by decide

/-- an InlineVec history with a capacity panic (`push` on the full vector), a shift, a swap, clones
and a drain: mapped completely, and both models end with the same ids -/
example :
    let ops : List Op := [.push, .push, .push, .push, .insert 0, .swapRemove 0, .extWithin 0 1,
      .pop, .drain 0 1 [.back] .drop, .resize 3]
    (ivHist (initInline 3) ops).isSome = true ∧
      absIV (runQ ops (initInline 3)).2 = ⟨3, [1, 7, 8]⟩ ∧
      (runQ ops (initInline 3)).1 = [.unit, .unit, .unit, .panic, .panic, .some 0, .unit, .some 5,
        .unit, .unit] := by
  intro ops
  decide

/-- a ThinVec history across the first reallocation (capacity 4 → 8), with an under-reporting
iterator and a conversion: in scope, mapped completely -/
example :
    let ops : List Op := [.push, .push, .push, .extIter 1 3, .remove 1, .shrinkFit, .roundtrip,
      .splitOff 2]
    (tvHist (initThin 8 true) ops).isSome = true ∧
      (runQ ops (initThin 8 true)).2.v.cap = 5 ∧ absL (runQ ops (initThin 8 true)).2 = [1, 3] := by
  intro ops
  decide

/-- the iterator's provided methods map to list-level pulls: `nth(1)` is two `next`s, `count` /
`fold` / `last` end with the iterator's drop -/
example :
    ivHist (initInline 4) [.push, .push, .push, .drain 0 3 [.nth 1, .nthBack 0] .count] =
        some [.push 0, .push 1, .push 2,
          .drain (.incl 0) (.excl 3) [.front, .front, .back] .drop] := rfl
example :
    absIV (runQ [.push, .push, .push, .push, .drain 0 3 [.nth 1] .fold] (initInline 4)).2
      = ⟨4, [3]⟩ := by decide

/-- the side conditions of the `Vec`-level corollaries are satisfiable -/
example : SmallHist (initThin 8 true) [.push, .push, .push, .extIter 1 3, .remove 1, .shrinkFit,
    .roundtrip, .splitOff 2] := by decide
example : ivHist (initInline 3) [.push, .insert 0, .pop] = some [.push 0, .insert 0 1, .pop] := rfl
example : IVFits 3 ([] : List Nat) [.push 0, .insert 0 1, .pop] := by
  simp [IVFits, Vecs.Op.forIV, Vecs.needs, Vecs.specStep, HipVerif.Spec.Vec.push]

end HipVerif.Props.C13
