/-
C02 — Handles are independent: no edit or drop is visible through another handle.
-/
import HipVerif.Lemmas.CoreRun
import HipVerif.Lemmas.SpecFrame
import HipVerif.Lemmas.CoreHeapFacts
import HipVerif.Audit.Reexport

namespace HipVerif.Props.C02
open HipVerif.Core HipVerif.Spec.Std

/-- **Frame.** Whatever is done to one value — in-place edit, push, truncate, mutate guard,
conversion into a Vec, drop — every OTHER live value (its clone, a slice of it, the value it was
sliced from…) reads back exactly the same bytes afterwards.  `writes op` are the slots the
operation creates, modifies or consumes. -/
theorem frame (cfg : Cfg) (s : State) (op : Op) (k : Nat) (w : Wf cfg s) (hok : OpOk s op)
    (hk : k ∉ writes op) : sget (abs (step cfg s op).1) k = sget (abs s) k :=
  step_frame cfg s op k w hok hk

/-- The std buffers values borrow from are never written: not by one step, not by any history. -/
theorem borrow_untouched (cfg : Cfg) (s : State) (ops : List Op) : (run cfg s ops).1.srcs = s.srcs :=
  srcs_run cfg ops s

/-- Owned slices and clones stay fully readable after their source is dropped (or consumed by
`into_vec`, or rewritten through a `mutate` guard): a special case of `frame`, and the invariant
(the view lies in a LIVE owner's buffer) still holds for them. -/
theorem survives_source_drop (cfg : Cfg) (s : State) (h k : Nat) (w : Wf cfg s) (hk : k ≠ h) :
    sget (abs (step cfg s (.drop h)).1) k = sget (abs s) k ∧ Wf cfg (step cfg s (.drop h)).1 :=
  ⟨frame cfg s (.drop h) k w trivial (by simp [writes, hk]), wf_step cfg s _ w⟩

/-- `as_mut_slice` (and `as_mut_str`, `as_mut_ptr`) returning `Some` means the value is not borrowed
and NO other live value shares its buffer. -/
reexport HipVerif.Core.asMut_grant_sound as mut_grant_sound

/-- a refusal leaves everything unchanged -/
reexport HipVerif.Core.asMut_refused_unchanged as mut_refused_unchanged

/-- `into_vec` / `into_string` succeed exactly for the sole owner at offset 0; otherwise the value is
handed back unchanged. -/
reexport HipVerif.Core.intoVec_ok_iff as into_vec_ok_iff
reexport HipVerif.Core.intoVec_refused_unchanged as into_vec_refused_unchanged

/-- an append happens in place only when no other value shares the buffer -/
reexport HipVerif.Core.push_in_place_iff_sole as push_in_place_iff_sole

/-- a uniqueness test that answers `true` on a live buffer means exactly one handle refers to it -/
reexport HipVerif.Core.ownerUnique_sole as unique_test_sound

/-! Non-vacuity: in the history below slot 2 is an offset slice of slot 0 sharing its buffer; after
slot 0 is edited in place through `to_mut_slice` and dropped, slot 2 still reads its bytes. -/

private def cfg0 : Cfg := { backend := .rc, ceil := 9, debug := false, icap := 23 }
private def ops0 : List Op :=
  [.fromSlice 0 (List.replicate 40 1), .slice 0 2 (.included 5) (.excluded 35), .toMutWrite 0 7 9, .drop 0]

example : sget (abs (run cfg0 (init [] 3) ops0).1) 2 = some (List.replicate 30 1) := by decide

end HipVerif.Props.C02
