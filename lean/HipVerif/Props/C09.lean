/-
C09 — Share-count ceiling and non-sharing backend fall back to valid private copies.

`cfg.ceil` (the largest stored count an increment may produce) is a PARAMETER of the model, so
everything below holds for the real ceiling (`realCfg`, constants generated from src/smart.rs)
without 2^64 clones.  Statements and proofs: Lemmas/CoreReprFacts.lean, Lemmas/CoreStep.lean.
-/
import HipVerif.Audit.Reexport
import HipVerif.Lemmas.CoreReprFacts
import HipVerif.Lemmas.CoreRun
import HipVerif.Props.C02

namespace HipVerif.Props.C09
open HipVerif.Core

/-- `clone` of a heap value whose count cannot be incremented (backend `Unique`, or count at the
ceiling): the clone is a handle on a FRESH inner holding a private copy of exactly the view, at
offset 0 of its own buffer; the source's count does not move and the source is unchanged. -/
reexport HipVerif.Core.clone_overflow as clone_overflow

/-- `slice` to more than the inline capacity in the same situation: the slice owns a fresh buffer
holding exactly the requested window and its data pointer lies in ITS OWN buffer at offset 0
(the statement the original `slice_unchecked` violated: it kept the source's data pointer). -/
reexport HipVerif.Core.slice_overflow as slice_overflow

/-- the same for adoption (`slice_ref`, `split`, `trim`, … are built on it) -/
reexport HipVerif.Core.adopt_overflow as adopt_overflow

/-- The stored count never exceeds the ceiling (clause `ceil` of the invariant), hence never wraps:
`count + 1` (the number of shares) fits a `usize`. -/
reexport HipVerif.Core.count_never_wraps as count_never_wraps

/-- …instantiated with the constants read from `Arc::incr` / `Rc::incr` in the source. -/
reexport HipVerif.Core.count_never_wraps_real as count_never_wraps_real

/-- the generated increment bounds leave room: ceiling + 1 < 2^64 for the three backends -/
reexport HipVerif.Core.realCfg_ceil_lt as real_ceiling_lt

/-- The `Unique` backend never shares: every live buffer has exactly one handle. -/
reexport HipVerif.Core.unique_never_shares as unique_never_shares

/-- The private copy outlives the original: after the source is dropped the copy reads the same
bytes and the invariant (its view lies in a live buffer) still holds; the original is released
normally (`wf_step` for `drop`). -/
theorem outlives (cfg : Cfg) (s : State) (h k : Nat) (w : Wf cfg s) (hk : k ≠ h) :
    Spec.Std.sget (abs (step cfg s (.drop h)).1) k = Spec.Std.sget (abs s) k ∧
      Wf cfg (step cfg s (.drop h)).1 :=
  HipVerif.Props.C02.survives_source_drop cfg s h k w hk

/-! Non-vacuity: on the `Unique` backend, and on `Rc` with the count at a ceiling of 1, a 30-byte
slice of a 40-byte value is a fresh heap value at offset 0 that survives the source. -/

private def uq : Cfg := { backend := .unique, ceil := 0, debug := true, icap := 23 }
private def rc1 : Cfg := { backend := .rc, ceil := 1, debug := true, icap := 23 }
private def ops : List Op :=
  [.fromSlice 0 (List.replicate 40 1), .clone 0 1, .slice 0 2 (.included 5) (.excluded 35), .drop 0]

example : (getH (run uq (init [] 3) ops).1 2).map (·.repr) = some (.heap 2 3 0 30) := by decide
example : (getH (run rc1 (init [] 3) ops).1 2).map (·.repr) = some (.heap 1 2 0 30) := by decide
example : Spec.Std.sget (abs (run rc1 (init [] 3) ops).1) 2 = some (List.replicate 30 1) := by decide

end HipVerif.Props.C09
