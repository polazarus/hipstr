import HipVerif.Gen.Wiring

/-!
# C11 — inherited `str` API yields the same pieces as std, each an independent value

std's algorithms are *called*, not re-implemented: what hipstr adds is **wiring** (which std method
each `HipStr` wrapper calls, on what, with which arguments) and **adoption** (each `&str` result
becomes an owned sub-slice of `self`). This file holds the wiring half, proved over
`Gen.Wiring.tables`, which `harness/src/extract/wiring.rs` regenerates from `src/string.rs` and
`src/string/pattern.rs` on every run. The item-by-item tie to the real std is
`harness/src/bin/patdrive.rs`.

The adoption half (`adopt_content`, `adopt_frame`, `piece_independent`, `iter_items`: what
`slice_ref_unchecked` of a window inside the haystack does in `Model/Core.lean`) is in
`Props/C11Core.lean`. `wiring_ok` below is what lets those theorems speak about every inherited
method at once: each `&str` component std returns for `m` on `self.as_str()` reaches
`self.slice_ref_unchecked` unchanged, and `HipStr::slice_ref_unchecked` hands its bytes to
`HipByt::slice_ref_unchecked` of `self.0`.
-/

namespace HipVerif.Props.C11

open HipVerif.Wiring
open HipVerif.Gen.Wiring (tables table)

/-- Every row read from the source is wired correctly (`Model/WiringTy.lean`, `rowOk`):

  * each `HipStr` wrapper named `m` reaches std's method of the SAME name `m` on `self.as_str()` —
    directly, or through `pattern.m([n,] self.as_str())` where the `impl_pat!` arm implementing the
    declaring pattern trait is `fn m(self, [n,] haystack) { haystack.m([n,] self) }` — with the pattern
    and the count passed through unchanged and std's own iterator type as declared item source;
  * every `&str` component of the result is adopted from `self` by `slice_ref_unchecked`
    (`IterWrapper::new(self, …)` for iterators, whose `Adopt` impl for the item type is checked too;
    `self.slice_ref_unchecked(component)` in result order for `trim*`, `strip_*`, `split_once`);
    the index component of `match_indices`/`rmatch_indices` items is passed unchanged;
  * every `impl_pat!` arm method calls the same-named `str` method on its haystack parameter, and the
    arms chain `base ← reverse ← double_ended` so that each pattern trait gets exactly one body per method;
  * allocating methods: `to_lowercase`/`to_uppercase` are `Self::from(self.as_str().m())`,
    `from_utf16*` are `String::m(v)` converted by `into`; `to_ascii_*case`/`repeat` delegate to the
    same-named `HipByt` method on `self.0`;
  * `HipStr::slice_ref_unchecked` passes `slice.as_bytes()` to `self.0.slice_ref_unchecked`. -/
theorem wiring_ok : ∀ r ∈ table, rowOk tables r = true := by
  decide +kernel

/-- `IterWrapper` forwards one to one: `next` is `self.inner.next()` and `next_back` (available only
    when the std iterator is double-ended) is `self.inner.next_back()`, every item being adopted from
    `self.source`, which `IterWrapper::new(source, inner)` stores as given. Hence a `HipStr` iterator
    yields std's items in std's order in forward, backward and mixed iteration. -/
theorem iter_forwarding_ok : forwardingOk tables = true := by
  decide +kernel

/-- Every method DEFINED in an `impl Iterator / DoubleEndedIterator / FusedIterator / ExactSizeIterator
    for IterWrapper` block (not only `next`/`next_back`: any override such as `nth`, `nth_back`, `last`,
    `size_hint`, `count`) forwards to the SAME-named method of the inner std iterator with its arguments
    unchanged, and adopts each yielded `&str` from `self.source`. Stated per row so that a falsified
    instance names the method and its `file:line`. -/
theorem iter_methods_forward_same_name : ∀ f ∈ tables.forwards, fwdOk f = true := by
  have h := iter_forwarding_ok
  simp only [forwardingOk, Bool.and_eq_true] at h
  exact List.all_eq_true.mp h.1.1.1.1.1

/-- The table has exactly one wrapper row for every method named in the property (`split`, `rsplit`,
    `splitn`, `rsplitn`, `split_terminator`, `split_inclusive`, `split_once`, `matches`,
    `match_indices`, `trim*`, `strip_*`, `lines`, `split_whitespace`, the case conversions, `repeat`,
    `from_utf16*`, and their reverse variants), and an `impl_pat!` invocation of the required level for
    every pattern type of the property's quantifier — so a deleted or renamed wrapper, or a pattern
    type that lost its impl, is noticed rather than silently dropping out of `wiring_ok`. -/
theorem coverage : coverageOk tables = true := by
  decide +kernel

/-- Spelled-out consequence of `wiring_ok` + `coverage` for one method: the row of `rsplitn` exists and
    says `pattern.rsplitn(n, self.as_str())` adopted through `IterWrapper::new(self, …)`, and the
    `ReversePattern` arm body of `rsplitn` is `haystack.rsplitn(n, self)`. -/
theorem rsplitn_wired :
    (∃ r ∈ tables.wrappers, r.name = "rsplitn" ∧ r.callee = "rsplitn" ∧ r.recv = .selfAsStr ∧
        r.patArg = .unchanged ∧ r.countArg = .unchanged ∧ r.adopt = .iterWrapper .selfRef) ∧
    (∃ a ∈ tables.arms, a.trait = "ReversePattern" ∧ a.method = "rsplitn" ∧ a.callee = "rsplitn" ∧
        a.recv = .haystack ∧ a.patArg = .unchanged ∧ a.countArg = .unchanged) := by
  decide +kernel

/-! ## Non-vacuity: the predicates reject wrong wiring -/

/-- The table is not empty and has rows of every kind. -/
example : 55 ≤ table.length ∧ 31 ≤ tables.wrappers.length ∧ 18 ≤ tables.arms.length ∧
    2 ≤ tables.adopts.length ∧ 2 ≤ tables.forwards.length ∧ 7 ≤ tables.invocations.length := by
  decide +kernel

/-- `rsplitn` wired to `splitn` (wrapper level): rejected. -/
example :
    rowOk tables (.wrapper ⟨"rsplitn", .patTrait "ReversePattern", "splitn", .selfAsStr, .unchanged, .unchanged,
      .iter, .iterWrapper .selfRef, [], .iterAssoc "SplitN", "mutant"⟩) = false := by
  decide +kernel

/-- `rsplitn` wired to `splitn` (inside the macro arm): rejected. -/
example :
    rowOk tables (.arm ⟨"reverse", "ReversePattern", "rsplitn", "splitn", .haystack, .unchanged, .unchanged,
      "RSplitN", "core::str::SplitN<Self>", "mutant"⟩) = false := by
  decide +kernel

/-- `trim_end` calling `trim`: rejected. -/
example :
    rowOk tables (.wrapper ⟨"trim_end", .direct, "trim", .selfAsStr, .absent, .absent, .single,
      .sliceRef .selfRef, [0], .self, "mutant"⟩) = false := by
  decide +kernel

/-- `match_indices` items with an altered index (`self.0 + 1`): the `Adopt` row is rejected. -/
example :
    rowOk tables (.adopt ⟨"(usize,&str)", [.other "self . 0 + 1", .adoptStr .sourceParam (some 1)], "mutant"⟩) = false := by
  decide +kernel

/-- `split_once` with swapped halves, a count that is modified, a haystack that is not `self.as_str()`,
    adoption from another value: all rejected. -/
example :
    rowOk tables (.wrapper ⟨"split_once", .patTrait "Pattern", "split_once", .selfAsStr, .unchanged, .absent,
      .optionPair, .sliceRef .selfRef, [1, 0], .optPair, "mutant"⟩) = false ∧
    rowOk tables (.wrapper ⟨"splitn", .patTrait "Pattern", "splitn", .selfAsStr, .unchanged, .other "n + 1",
      .iter, .iterWrapper .selfRef, [], .iterAssoc "SplitN", "mutant"⟩) = false ∧
    rowOk tables (.wrapper ⟨"trim", .direct, "trim", .other "other . as_str ()", .absent, .absent, .single,
      .sliceRef .selfRef, [0], .self, "mutant"⟩) = false ∧
    rowOk tables (.wrapper ⟨"trim", .direct, "trim", .selfAsStr, .absent, .absent, .single,
      .sliceRef (.other "other"), [0], .self, "mutant"⟩) = false := by
  decide +kernel

/-- `next_back` forwarded to `next`, `nth_back` forwarded to `nth`, `nth` with a
    modified argument, `last` without adoption, an override the table does not know (`fold`): rejected;
    a correct `nth` / `nth_back` / `size_hint` override: accepted. -/
example :
    fwdOk ⟨"DoubleEndedIterator", "next_back", "next", .selfInner, .absent, .adoptFrom .selfSourceField,
      ["Iterator", "DoubleEndedIterator"], true, "mutant"⟩ = false ∧
    fwdOk ⟨"DoubleEndedIterator", "nth_back", "nth", .selfInner, .unchanged, .adoptFrom .selfSourceField,
      ["Iterator", "DoubleEndedIterator"], true, "mutant"⟩ = false ∧
    fwdOk ⟨"Iterator", "nth", "nth", .selfInner, .other "n + 1", .adoptFrom .selfSourceField,
      ["Iterator"], true, "mutant"⟩ = false ∧
    fwdOk ⟨"Iterator", "last", "last", .selfInner, .absent, .none, ["Iterator"], true, "mutant"⟩ = false ∧
    fwdOk ⟨"Iterator", "fold", "fold", .selfInner, .unchanged, .none, ["Iterator"], true, "mutant"⟩ = false ∧
    fwdOk ⟨"Iterator", "nth", "nth", .selfInner, .unchanged, .adoptFrom .selfSourceField,
      ["Iterator"], true, "ok"⟩ = true ∧
    fwdOk ⟨"DoubleEndedIterator", "nth_back", "nth_back", .selfInner, .unchanged, .adoptFrom .selfSourceField,
      ["Iterator", "DoubleEndedIterator"], true, "ok"⟩ = true ∧
    fwdOk ⟨"Iterator", "size_hint", "size_hint", .selfInner, .absent, .none, ["Iterator"], true, "ok"⟩ = true := by
  decide +kernel

/-- Coverage fails when a wrapper disappears. -/
example :
    coverageOk { tables with wrappers := tables.wrappers.filter (·.name != "lines") } = false := by
  decide +kernel

end HipVerif.Props.C11
