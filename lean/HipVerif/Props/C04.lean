import HipVerif.Lemmas.Conc
import HipVerif.Gen.Atomics

/-!
# C04 — atomically shared buffers are race-free under every thread schedule

The theorems below are about the model `Model/Conc.lean` instantiated with the protocol
description `Gen.Atomics.proto` that the translator regenerates from `impl Kind for Arc` in
`/repo/src/smart.rs`.  They hold for every ceiling `ceil`, every number of threads, every
initial distribution `hs` of handles (`1 ≤ hs.sum ≤ ceil + 1`), every schedule, every choice
of (stale) message read by a relaxed `load`, every spurious CAS failure and every program,
including programs in which a handle is used BY REFERENCE from other threads
(`Label.borrow`/`unborrow`: scoped threads or `Arc<HipStr>` sharing `&handle`; the borrowers may
`read`/`clone`/`count`, the lender keeps the handle until the references are back).

The first block are the NAMED side conditions on the generated description, proved by
`decide`: these are the obligations that a weakened source breaks by name
(`decr_is_release`: `Release → Relaxed` in `decr`; `decr_overflow_has_acquire_fence` /
`is_unique_has_acquire_fence`: a removed fence; `incr_is_rmw` / `decr_is_rmw`: an update
rewritten as load + store; `incr_bound_le_ceil`: a changed loop bound; `is_unique_shape`:
`is_unique` no longer tests the value read against `0`).
-/

namespace HipVerif.Props.C04
open HipVerif.Model HipVerif.Model.Conc
open HipVerif.Gen

/-- The model instantiated with the generated protocol description. -/
def cfg (ceil : Nat) : Cfg := { ceil := ceil, proto := Atomics.proto }

/-! ## Named side conditions on `Gen.Atomics` -/

/-- `Arc::one` creates the counter at `0`: the count stores `shares - 1` (the initial states of
the model are built accordingly). -/
theorem one_is_zero : Atomics.one = 0 := by decide

/-- `Arc::decr` is one atomic `fetch_sub(1, _)` followed by a test of the old value against `0`
(`Overflow` when it was `0`); in particular the decrement is a read-modify-write. -/
theorem decr_is_rmw : decrShape Atomics.proto = true := by decide

/-- The `fetch_sub` of `Arc::decr` has release semantics: the accesses of the dropping thread
are published to whoever frees or mutates later. -/
theorem decr_is_release : decrIsRelease Atomics.proto = true := by decide

/-- The `Overflow` branch of `Arc::decr` acquires (fence) before the caller frees the box. -/
theorem decr_overflow_has_acquire_fence : decrAcquires Atomics.proto = true := by decide

/-- After the `fetch_sub` of `Arc::decr` nothing touches the counter any more (only fences and
the returned value), in any build profile: once its share is given back, the block may be
freed by another thread, so even a `debug_assert!` reading the count would be a use after free. -/
theorem no_counter_access_after_release : decrNoAccessAfterRelease Atomics.proto = true := by decide

/-- No `debug_assert!` of the counter methods accesses the counter (the debug and release
builds run the same protocol); when this breaks the right-hand side lists the sites. -/
theorem no_debug_only_accesses : Atomics.debugOnlyAccesses = [] := by decide

/-- `Arc::incr` is a relaxed load followed by a compare-exchange loop: the increment is a
read-modify-write, never a load + store. -/
theorem incr_is_rmw : incrShape Atomics.proto = true := by decide

/-- The loop bound of `Arc::incr` keeps the stored count at most `ceil` (`usize::MAX - 1`). -/
theorem incr_bound_le_ceil (ceil : Nat) : incrBoundOk ceil Atomics.proto = true := by
  simp [incrBoundOk, Atomics.proto, Atomics.incr, Bound.eval]

/-- `Arc::is_unique` loads the count and answers `true` exactly when it read `0`. -/
theorem is_unique_shape : uniqShape Atomics.proto = true := by decide

/-- The `true` branch of `Arc::is_unique` acquires (fence) before the caller mutates or takes. -/
theorem is_unique_has_acquire_fence : uniqAcquires Atomics.proto = true := by decide

/-- `Arc::get` is a single load (plus one). -/
theorem get_is_load : getShape Atomics.proto = true := by decide

/-- No counter method contains a plain `store`: every modification of the count is an RMW. -/
theorem no_plain_store :
    noPlainStore Atomics.decr = true ∧ noPlainStore Atomics.incr = true ∧
    readOnly Atomics.isUnique = true ∧ readOnly Atomics.get = true := by decide

/-- The source sites of plain stores to the count, per method: none.  (When this breaks, the
left-hand side evaluates to the offending `file:line`s; `conc_driver`'s `obligations` command
prints them as `plain_store_sites=…`.) -/
theorem plain_store_sites :
    Atomics.rowSites.map (fun p => (p.1, storeSites
      (match p.1 with
        | "decr" => Atomics.decr | "incr" => Atomics.incr
        | "isUnique" => Atomics.isUnique | _ => Atomics.get) p.2)) =
    [("decr", []), ("incr", []), ("get", []), ("isUnique", [])] := by decide

/-- The generated description satisfies every side condition, for every ceiling. -/
theorem gen_ok (ceil : Nat) : ProtoOk (cfg ceil) :=
  { decr_is_rmw := decr_is_rmw
    decr_is_release := decr_is_release
    decr_overflow_has_acquire_fence := decr_overflow_has_acquire_fence
    incr_is_rmw := incr_is_rmw
    incr_bound_le_ceil := incr_bound_le_ceil ceil
    is_unique_shape := is_unique_shape
    is_unique_has_acquire_fence := is_unique_has_acquire_fence
    get_is_load := get_is_load }

/-! ## Counting -/

/-- While at least one `Smart<_, Arc>` handle to a buffer exists (in any thread, including
handles in the middle of `clone`/`drop`), the last value written to the atomic count is the
number of handles minus one, and it never exceeds the ceiling. -/
theorem count_tracks {ceil : Nat} {hs : List Nat} {s : State} (hr : Reachable (cfg ceil) hs s)
    (h1 : 1 ≤ total s) : s.last.val + 1 = total s ∧ s.last.val ≤ ceil :=
  ⟨(hr.wf1 (gen_ok ceil).shapeOk).track h1, (hr.wf1 (gen_ok ceil).shapeOk).ceil h1⟩

/-- `J`: a thread that holds a handle which is not lent out can never read a stale `0` from the
count: every message it is still allowed to read, except the last one, is `≥ 1`.  (Needs
`incr_is_rmw`: a non-atomic increment leaves a stale `0` readable.) -/
theorem J {ceil : Nat} {hs : List Nat} {s : State} (hr : Reachable (cfg ceil) hs s)
    {t : Nat} {th : Thread} (ht : s.thr[t]? = some th) (ho : 1 ≤ owned th)
    (hnp : pinned s t = false)
    {i : Nat} {m : Msg} (hi : s.hist[i]? = some m) (hc : th.coh ≤ i) : 1 ≤ m.val :=
  (hr.wf1 (gen_ok ceil).shapeOk).no_stale_zero ht ho hnp hi hc

/-- `J` for a lent handle: a stale `0` is out of reach of the lender itself or of one of the
borrowers, whose coherence index is joined into the lender's when the reference comes back. -/
theorem J_lent {ceil : Nat} {hs : List Nat} {s : State} (hr : Reachable (cfg ceil) hs s)
    {i : Nat} {m : Msg} (hi : s.hist[i]? = some m) (hz : m.val = 0)
    {t : Nat} {th : Thread} (ht : s.thr[t]? = some th) (ho : 1 ≤ owned th) :
    i < th.coh ∨ ∃ (w : Nat) (wh : Thread), s.thr[w]? = some wh ∧ t ∈ wh.refs ∧ i < wh.coh :=
  (hr.wf1 (gen_ok ceil).shapeOk).J i m hi hz t th ht ho

/-- A shared reference to a handle never dangles: while it is out its lender still holds a
handle and the buffer has not been freed. -/
theorem lent_alive {ceil : Nat} {hs : List Nat} {s : State} (hr : Reachable (cfg ceil) hs s)
    {w : Nat} {wh : Thread} (hw : s.thr[w]? = some wh) {u : Nat} (hu : u ∈ wh.refs) :
    (∃ uh, s.thr[u]? = some uh ∧ 1 ≤ uh.handles) ∧ s.freed = 0 :=
  (hr.wf1 (gen_ok ceil).shapeOk).lent_alive hw hu

/-- When `is_unique` is about to return `true` to `as_mut`/`try_unwrap` (even after a relaxed,
possibly stale load), exactly one handle to the buffer exists: the caller's, and no shared
reference to any handle is out. -/
theorem unique_sound {ceil : Nat} {hs : List Nat} {s : State} (hr : Reachable (cfg ceil) hs s)
    {t : Nat} {th : Thread} (ht : s.thr[t]? = some th)
    {k : Kont} {code : List AStep} {old : Nat} (hpc : th.pc = some ⟨k, code, old⟩)
    (hk : k = .mutate ∨ k = .unwrap) (hret : localRet code = some (.bool true)) :
    total s = 1 ∧ th.handles = 1 ∧ s.freed = 0 ∧
      (∀ (u : Nat) uh, u ≠ t → s.thr[u]? = some uh → owned uh = 0) ∧
      (∀ (u : Nat) uh, s.thr[u]? = some uh → uh.refs = []) :=
  (hr.wf1 (gen_ok ceil).shapeOk).unique_sound ht hpc hk hret

/-- The box is freed at most once (no double free), under every schedule. -/
theorem freed_once {ceil : Nat} {hs : List Nat} {s : State} (hr : Reachable (cfg ceil) hs s) :
    s.freed ≤ 1 :=
  (hr.wf1 (gen_ok ceil).shapeOk).Fz.1

/-- When every handle has been dropped (or unwrapped) and no method is in flight, the box has
been freed (no leak). -/
theorem all_dropped_freed {ceil : Nat} {hs : List Nat} {s : State}
    (hr : Reachable (cfg ceil) hs s) (h0 : total s = 0)
    (hidle : ∀ (t : Nat) th, s.thr[t]? = some th → th.pc = none) : s.freed = 1 :=
  (hr.wf1 (gen_ok ceil).shapeOk).all_dropped_freed h0 hidle

/-! ## Happens-before -/

/-- `K`: the payload accesses of a thread that no longer holds a handle or a reference are covered by the
release view of the count's last message (it gave its handles up through `drop`, a release
RMW, and every later modification is an RMW that continues the release sequence), or are
known to a thread that still holds a handle (it gave its last handle away with `send`, or
gave a reference back to its lender). -/
theorem K {ceil : Nat} {hs : List Nat} {s : State} (hr : Reachable (cfg ceil) hs s)
    (hf : s.freed = 0) {u : Nat} {uh : Thread} (hu : s.thr[u]? = some uh) (ho : owned uh = 0)
    (hrf : uh.refs = []) (hx : excl uh = false) :
    vat s.acc u ≤ vat s.last.rel u ∨
    ∃ (t : Nat) (th : Thread), s.thr[t]? = some th ∧ 1 ≤ owned th ∧ vat s.acc u ≤ vat th.view u :=
  (hr.wf2 (gen_ok ceil)).K hf u uh hu ho hrf hx

/-- No data race on the payload: every read through a handle or a borrowed reference, every write granted by
`as_mut`, every deep copy and the final free are ordered by happens-before with every
conflicting access, under every schedule and every stale-read choice. -/
theorem race_free {ceil : Nat} {hs : List Nat} {s : State} (hr : Reachable (cfg ceil) hs s) :
    s.race = false :=
  (hr.wf2 (gen_ok ceil)).race

/-- Neither the payload nor the count (same box) is ever accessed, nor the box freed again,
after the free; and once freed no thread holds or is acquiring a handle. -/
theorem no_access_after_free {ceil : Nat} {hs : List Nat} {s : State}
    (hr : Reachable (cfg ceil) hs s) :
    s.uaf = false ∧
      (s.freed = 1 → ∀ (t : Nat) th, s.thr[t]? = some th → owned th = 0 ∧ excl th = false) :=
  ⟨(hr.wf2 (gen_ok ceil)).uaf, (hr.wf1 (gen_ok ceil).shapeOk).Fz.2⟩

/-- Every write ever made to the payload (by a former unique owner) happens-before a read through a
handle or a borrowed reference, and the read does not race.  (That the read logs the current
content `s.pval` is how the model defines a read, not a consequence of the invariants.) -/
theorem reads_see_last_write {ceil : Nat} {hs : List Nat} {s s' : State}
    (hr : Reachable (cfg ceil) hs s) {t : Nat} (hstep : step (cfg ceil) s (.start t .read) = some s') :
    ∃ th th', s.thr[t]? = some th ∧ s'.thr[t]? = some th' ∧ th'.res = th.res ++ [s.pval] ∧
      (∀ u : Nat, vat s.wr u ≤ vat th.view u) ∧ s'.race = false := by
  obtain ⟨sh⟩ := Shape.ofOk (gen_ok ceil).shapeOk
  exact read_sees_last_write sh (Ords.ofOk sh (gen_ok ceil).ordOk) (hr.wf1 (gen_ok ceil).shapeOk)
    (hr.wf2 (gen_ok ceil)) hstep

/-! ## Non-vacuity -/

/-- Two threads with one handle each: thread 0 reads and drops, thread 1 then finds itself
unique (having read the LAST message), writes, and drops: the box is freed once, no race. -/
def schedA : List Label :=
  [.start 0 .read, .start 0 .drop, .micro 0 0, .micro 0 0,
   .start 1 .mutate, .micro 1 1, .micro 1 0, .micro 1 0,
   .start 1 .drop, .micro 1 0, .micro 1 0, .micro 1 0]

example : (run (cfg 10) (init [1, 1]) schedA).map
    (fun s => (s.freed, s.pval, s.race, s.uaf, total s)) = some (1, 1, false, false, 0) := by
  decide

/-- The hypotheses of `unique_sound` are satisfiable: after the load of `is_unique` read `0`. -/
example : ∃ s th code old, Reachable (cfg 10) [1, 1] s ∧ s.thr[1]? = some th ∧
    th.pc = some ⟨.mutate, code, old⟩ ∧ localRet code = some (.bool true) :=
  ⟨_, _, _, _, ⟨by decide, by decide, schedA.take 6, rfl⟩, rfl, rfl, rfl⟩

/-- Stale reads are really in the model: thread 1 may load the initial message (index 0, value
`1`) although thread 0 has already decremented the count, and is then refused the mutation. -/
example : (run (cfg 10) (init [1, 1])
    [.start 0 .drop, .micro 0 0, .micro 0 0, .start 1 .mutate, .micro 1 0, .micro 1 0]).map
    (fun s => (s.last.val, s.thr.map (·.res))) = some (0, [[0], [0]]) := by
  decide

/-- The race flag is not vacuous: with `decr` weakened to `Relaxed` the same schedule as
`schedA` ends with a race between thread 0's read and thread 1's write. -/
example : (run { ceil := 10, proto := { Atomics.proto with decr :=
      [.rmwSub 1 .relaxed, .branch .eq (.lit 0) [.fence .acquire] .overflow [] .done] } }
    (init [1, 1]) schedA).map (·.race) = some true := by
  decide

/-- By-reference use: thread 0 lends its only handle to threads 1 and 2, which both clone through
the reference (the second clone reads the count STALE and its CAS fails once), thread 1 drops its
clone, the references come back, thread 0 is refused the mutation (two handles), drops, and
thread 2's drop frees: three handles were counted, one free, no race. -/
def schedRef : List Label :=
  [.borrow 1 0, .borrow 2 0,
   .start 1 .clone, .micro 1 0, .micro 1 0, .micro 1 0,
   .start 2 .clone, .micro 2 0, .micro 2 2, .micro 2 0, .micro 2 0,
   .start 1 .drop, .micro 1 0, .micro 1 0,
   .unborrow 1 0, .unborrow 2 0,
   .start 0 .mutate, .micro 0 3, .micro 0 0,
   .start 0 .drop, .micro 0 0, .micro 0 0,
   .start 2 .drop, .micro 2 0, .micro 2 0, .micro 2 0]

example : (run (cfg 10) (init [1, 0, 0]) schedRef).map
    (fun s => (s.freed, s.race, s.uaf, total s, s.thr.map (·.res))) =
    some (1, false, false, 0, [[0, 0], [0, 0], [0, 1]]) := by
  decide

/-- While the references are out the lender cannot drop (the step is not enabled). -/
example : run (cfg 10) (init [1, 0]) [.borrow 1 0, .start 0 .drop] = none := by decide

/-- Reachable states exist for every admissible initial distribution. -/
example : Reachable (cfg 10) [2, 0, 1] (init [2, 0, 1]) := ⟨by decide, by decide, [], rfl⟩

end HipVerif.Props.C04
