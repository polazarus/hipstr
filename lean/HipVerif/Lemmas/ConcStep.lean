import HipVerif.Lemmas.ConcClock

/-!
# C04: every step of the model preserves both invariants

The step function is inverted once (`start_wf`, `micro_wf`, … case on the label, then on the head of
the in-flight code); each case hands the step to the lemma of its class in `ConcCount` (for
`Wf1`) and in `ConcClock` (for `Wf2`, which needs the ordering conditions as well).
-/

namespace HipVerif.Model.Conc
open HipVerif.Model

section micro
variable {c : Cfg} {s s' : State} {t ch : Nat} {th : Thread} {k : Kont} {rest : List AStep} {old : Nat}

theorem microStep_load {o : Ord} (ht : s.thr[t]? = some th) (hpc : th.pc = some ⟨k, .load o :: rest, old⟩) :
    microStep c s t ch = some s' ↔ (th.coh ≤ ch ∧ ch ≤ s.hist.length) ∧
      doLoad s t th ch o ⟨k, norm c.ceil rest (s.msgAt ch).val, (s.msgAt ch).val⟩ = s' := by
  simp only [microStep, ht, hpc, Option.ite_none_right_eq_some, Option.some.injEq]

theorem microStep_rmwSub {n : Nat} {o : Ord} (ht : s.thr[t]? = some th)
    (hpc : th.pc = some ⟨k, .rmwSub n o :: rest, old⟩) :
    microStep c s t ch = some s' ↔ ch = 0 ∧
      doRmw s t th o (wrapSub c.ceil s.last.val n) ⟨k, norm c.ceil rest s.last.val, s.last.val⟩ = s' := by
  simp only [microStep, ht, hpc, Option.ite_none_right_eq_some, Option.some.injEq]

theorem microStep_fence {o : Ord} (ht : s.thr[t]? = some th)
    (hpc : th.pc = some ⟨k, .simple (.fence o) :: rest, old⟩) :
    microStep c s t ch = some s' ↔ ch = 0 ∧
      { s with thr := s.thr.set t { th with
          view := if o.isAcquire then vjoin th.view th.pend else th.view,
          pc := some ⟨k, norm c.ceil rest old, old⟩ } } = s' := by
  simp only [microStep, ht, hpc, Option.ite_none_right_eq_some, Option.some.injEq]

theorem microStep_ret {r : Ret} (ht : s.thr[t]? = some th) (hpc : th.pc = some ⟨k, .ret r :: rest, old⟩) :
    microStep c s t ch = some s' ↔ ch = 0 ∧ finish s t { th with pc := none } k old r = some s' := by
  simp only [microStep, ht, hpc, Option.ite_none_right_eq_some]

theorem microStep_casLoop {w : Bool} {b : Bound} {so fo : Ord} (ht : s.thr[t]? = some th)
    (hpc : th.pc = some ⟨k, .casLoop w b so fo :: rest, old⟩) :
    microStep c s t ch = some s' ↔
      (old < b.eval c.ceil ∧
        ((ch = 0 ∧ s.last.val = old ∧ doRmw s t th so (wrapAdd c.ceil old 1) ⟨k, [.ret .done], old⟩ = s') ∨
         ∃ i, ch = i + 1 ∧ (th.coh ≤ i ∧ i ≤ s.hist.length ∧ (w = true ∨ (s.msgAt i).val ≠ old)) ∧
           doLoad s t th i fo ⟨k, .casLoop w b so fo :: rest, (s.msgAt i).val⟩ = s')) ∨
      (¬old < b.eval c.ceil ∧ ch = 0 ∧
        { s with thr := s.thr.set t { th with pc := some ⟨k, norm c.ceil rest old, old⟩ } } = s') := by
  simp only [microStep, ht, hpc]
  by_cases hlt : old < b.eval c.ceil
  · simp only [hlt, if_true, true_and, not_true, false_and, or_false]
    cases ch <;> simp
  · simp only [hlt, if_false, false_and, false_or, not_false_eq_true, true_and,
      Option.ite_none_right_eq_some, Option.some.injEq]
end micro

theorem startStep_some {c : Cfg} {s s' : State} {t : Nat} {a : Action}
    (hs : startStep c s t a = some s') :
    ∃ th, s.thr[t]? = some th ∧ th.pc = none ∧
      match a with
      | .read => canUse th = true ∧
          { payRead s t (tick th t).view with
            thr := s.thr.set t { tick th t with res := th.res ++ [s.pval] } } = s'
      | .clone => canUse th = true ∧ begin c s t th .clone c.proto.incr = s'
      | .count => canUse th = true ∧ begin c s t th .count c.proto.get = s'
      | .drop => canOwn s t th = true ∧
          begin c s t { th with handles := th.handles - 1 } .drop c.proto.decr = s'
      | .mutate => canOwn s t th = true ∧ begin c s t th .mutate c.proto.isUnique = s'
      | .unwrap => canOwn s t th = true ∧ begin c s t th .unwrap c.proto.isUnique = s' := by
  cases ht : s.thr[t]? with
  | none => simp only [startStep, ht, reduceCtorEq] at hs
  | some th =>
    cases hpc : th.pc with
    | some pc => simp only [startStep, ht, hpc, Option.isSome_some, if_true, reduceCtorEq] at hs
    | none =>
      refine ⟨th, rfl, hpc, ?_⟩
      cases a <;>
        simpa only [startStep, ht, hpc, Option.isSome_none, Bool.false_eq_true, if_false,
          Option.ite_none_right_eq_some, Option.some.injEq] using hs

section two
variable {s s' : State} {t u : Nat}

theorem sendStep_some (hs : sendStep s t u = some s') :
    ∃ th uh, s.thr[t]? = some th ∧ s.thr[u]? = some uh ∧ t ≠ u ∧ th.pc = none ∧ uh.pc = none ∧
      canOwn s t th = true ∧
      { s with thr := (s.thr.set t { th with handles := th.handles - 1 }).set u { uh with
          handles := uh.handles + 1, view := vjoin uh.view th.view, coh := max uh.coh th.coh } } = s' := by
  unfold sendStep at hs
  split at hs
  · rename_i th uh ht hu
    refine ⟨th, uh, ht, hu, ?_⟩
    simpa [and_assoc] using hs
  · cases hs

theorem borrowStep_some (hs : borrowStep s t u = some s') :
    ∃ th uh, s.thr[t]? = some th ∧ s.thr[u]? = some uh ∧ t ≠ u ∧ th.pc = none ∧ uh.pc = none ∧
      uh.handles ≠ 0 ∧
      { s with thr := s.thr.set t { th with
          refs := u :: th.refs, view := vjoin th.view uh.view, coh := max th.coh uh.coh } } = s' := by
  unfold borrowStep at hs
  split at hs
  · rename_i th uh ht hu
    refine ⟨th, uh, ht, hu, ?_⟩
    simpa [and_assoc] using hs
  · cases hs

theorem unborrowStep_some (hs : unborrowStep s t u = some s') :
    ∃ th uh, s.thr[t]? = some th ∧ s.thr[u]? = some uh ∧ t ≠ u ∧ th.pc = none ∧ uh.pc = none ∧
      u ∈ th.refs ∧
      { s with thr := (s.thr.set t { th with refs := th.refs.erase u }).set u { uh with
          view := vjoin uh.view th.view, coh := max uh.coh th.coh } } = s' := by
  unfold unborrowStep at hs
  split at hs
  · rename_i th uh ht hu
    refine ⟨th, uh, ht, hu, ?_⟩
    simpa [and_assoc] using hs
  · cases hs

end two
section classes
variable {c : Cfg} {s : State} {t : Nat} {th : Thread}

theorem wf_weaken {P : Prop} {s' : State} (h : Wf1 c s' ∧ (Wf2 c s → Wf2 c s')) :
    Wf1 c s' ∧ (P → Wf2 c s → Wf2 c s') :=
  h.imp id fun h2 _ => h2

theorem quiet_wf (h : Wf1 c s) (ht : s.thr[t]? = some th) {th' : Thread} (b : Bool)
    (hb : b = s.uaf ∨ ((1 ≤ owned th ∨ th.refs ≠ []) ∧ b = (s.uaf || decide (0 < s.freed))))
    (hown : owned th' = owned th) (hcoh : th.coh ≤ th'.coh) (hrefs : th'.refs = th.refs)
    (hhand : 1 ≤ th.handles → 1 ≤ th'.handles ∨ pinned s t = false)
    (hview : ∀ u : Nat, vat th.view u ≤ vat th'.view u)
    (hexcl : excl th' = true → excl th = true ∧ exclOwn th' = exclOwn th ∧
      ∀ u : Nat, vat (know th) u ≤ vat (know th') u)
    (hunexcl : excl th = true → excl th' = false → 1 ≤ owned th)
    (hpc : ∀ pc, th'.pc = some pc → PcOk c pc ∧ PcSide (pinned s t) th' pc) :
    Wf1 c { s with thr := s.thr.set t th', uaf := b } ∧
      (Wf2 c s → Wf2 c { s with thr := s.thr.set t th', uaf := b }) := by
  refine ⟨h.upd ht hown hcoh (hin := fun x hx => Or.inl (hrefs ▸ hx))
      (hout := fun x hx => Or.inl (hrefs ▸ hx)) (hhand := hhand)
      (hexcl := fun he => Or.inl ⟨(hexcl he).1, (hexcl he).2.1⟩) (hunexcl := hunexcl) (hpc := hpc),
    fun h2 => h2.upd ht (hb := hb.imp id fun ⟨huse, e⟩ => ⟨(h.user_facts ht huse).1, e⟩) hown hrefs
      hview (hexcl0 := ?_) (hknow := ?_)⟩
  · intro hx' ho
    cases hx : excl th with
    | false => rfl
    | true => have := hunexcl hx hx'; omega
  · exact fun he u => Nat.le_trans (h2.XK t th ht (hexcl he).1 u) ((hexcl he).2.2 u)

theorem ret_wf (h : Wf1 c s) (ht : s.thr[t]? = some th) (hx : excl th = false) {th' : Thread}
    (hpc : th'.pc = none) (hown : owned th' = owned th) (hcoh : th'.coh = th.coh)
    (hrefs : th'.refs = th.refs) (hview : th'.view = th.view) (hhand : th.handles ≤ th'.handles) :
    Wf1 c { s with thr := s.thr.set t th' } ∧ (Wf2 c s → Wf2 c { s with thr := s.thr.set t th' }) :=
  quiet_wf h ht _ (hb := Or.inl rfl) hown (hcoh := by omega) hrefs (hhand := fun hh => Or.inl (by omega))
    (hview := fun u => by rw [hview]; exact Nat.le_refl _) (hexcl := not_excl_idle hpc)
    (hunexcl := fun he => by rw [hx] at he; cases he) (hpc := fun _ => no_pc_idle hpc)

theorem load_wf (h : Wf1 c s) (ht : s.thr[t]? = some th) (huse : 1 ≤ owned th ∨ th.refs ≠ [])
    (hx : excl th = false) {i : Nat} (hi : th.coh ≤ i) (o : Ord) {pc' : Pc}
    (hown : inflight (some pc') = inflight th.pc)
    (hx' : excl { th with coh := i, pc := some pc' } = false)
    (hpc : PcOk c pc' ∧ PcSide (pinned s t) th pc') :
    Wf1 c (doLoad s t th i o pc') ∧ (Wf2 c s → Wf2 c (doLoad s t th i o pc')) := by
  refine quiet_wf h ht _ (hb := Or.inr ⟨huse, rfl⟩) (hown := ?_) (hcoh := by simpa using hi)
    (hrefs := by simp) (hhand := fun hh => Or.inl (by simpa using hh))
    (hview := vat_acquireInto_view_le { th with coh := i, pc := some pc' } o _) (hexcl := ?_)
    (hunexcl := fun he => by rw [hx] at he; cases he) (hpc := ?_)
  · rw [owned_acquireInto]
    show th.handles + inflight (some pc') = owned th
    rw [hown]; rfl
  · intro he
    rw [excl_acquireInto, hx'] at he; cases he
  · intro pc hp
    obtain rfl : pc' = pc := by simpa using hp
    exact ⟨hpc.1, hpc.2.congr rfl (by simp) (by simp) id⟩

theorem begin_wf (h : Wf1 c s) (ht : s.thr[t]? = some th) (hidle : th.pc = none) {k : Kont}
    (hk : k ≠ .drop) {code : List AStep} (hl : localRet code = none)
    (hnorm : norm c.ceil code 0 = code)
    (hpc : PcOk c ⟨k, code, 0⟩ ∧ PcSide (pinned s t) th ⟨k, code, 0⟩) :
    Wf1 c (begin c s t th k code) ∧ (Wf2 c s → Wf2 c (begin c s t th k code)) := by
  rw [begin, hnorm]
  refine quiet_wf h ht _ (hb := Or.inl rfl) (hown := ?_) (hcoh := Nat.le_refl _) (hrefs := rfl)
    (hhand := Or.inl) (hview := fun _ => Nat.le_refl _) (hexcl := fun he => ?_)
    (hunexcl := not_excl_idle hidle) (hpc := fun pc hp => ?_)
  · rw [owned_idle hidle]
    cases k <;> simp [owned, inflight, hl] <;> exact (hk rfl).elim
  · cases k <;> simp [excl, hl] at he
  · obtain rfl : (⟨k, code, 0⟩ : Pc) = pc := by simpa using hp
    exact hpc

/-- Beginning `drop`: the thread gives its handle up first; the handle is in flight until the
decrement. -/
theorem begin_drop_wf (h : Wf1 c s) (ht : s.thr[t]? = some th) (hidle : th.pc = none)
    (hh : 1 ≤ th.handles) (hnp : pinned s t = false) {code : List AStep}
    (hl : localRet code = none) (hnorm : norm c.ceil code 0 = code) (hok : PcOk c ⟨.drop, code, 0⟩) :
    Wf1 c (begin c s t { th with handles := th.handles - 1 } .drop code) ∧
      (Wf2 c s → Wf2 c (begin c s t { th with handles := th.handles - 1 } .drop code)) := by
  rw [begin, hnorm]
  refine quiet_wf h ht _ (hb := Or.inl rfl) (hown := ?_) (hcoh := Nat.le_refl _) (hrefs := rfl)
    (hhand := fun _ => Or.inr hnp) (hview := fun _ => Nat.le_refl _)
    (hexcl := fun he => by simp [excl, hl] at he) (hunexcl := not_excl_idle hidle)
    (hpc := fun pc hp => ?_)
  · rw [owned_idle hidle]
    simp [owned, inflight, hl]; omega
  · obtain rfl : (⟨.drop, code, 0⟩ : Pc) = pc := by simpa using hp
    exact ⟨hok, PcSide.ofDrop rfl hnp⟩

theorem fence_wf (sh : Shape c) (h : Wf1 c s) (ht : s.thr[t]? = some th) {k : Kont} {o : Ord}
    {rest : List AStep} {old : Nat} (hpc : th.pc = some ⟨k, .simple (.fence o) :: rest, old⟩)
    {th' : Thread}
    (hth' : { th with view := if o.isAcquire then vjoin th.view th.pend else th.view,
                      pc := some ⟨k, norm c.ceil rest old, old⟩ } = th') :
    Wf1 c { s with thr := s.thr.set t th' } ∧ (Wf2 c s → Wf2 c { s with thr := s.thr.set t th' }) := by
  obtain ⟨hok, hside⟩ := h.pcok t th _ ht hpc
  obtain ⟨hok', r, hr⟩ := hok.fence_rest sh
  rw [norm_of_localRet c.ceil old hr] at hth'
  -- `owned`, `excl` and `exclOwn` only look at `k` and at what the code will return
  have hown : owned th' = owned th := by
    subst hth'; unfold owned; rw [hpc]; cases k <;> rfl
  have hx : excl th' = excl th := by
    subst hth'; unfold excl; rw [hpc]; cases k <;> rfl
  subst hth'
  refine quiet_wf h ht _ (hb := Or.inl rfl) hown (hcoh := Nat.le_refl _) (hrefs := rfl)
    (hhand := Or.inl) (hview := ?_) (hexcl := ?_) (hunexcl := ?_) (hpc := ?_)
  · intro u
    dsimp only
    split
    · simp only [vat, vat_vjoin]; omega
    · exact Nat.le_refl _
  · intro he
    rw [hx] at he
    refine ⟨he, by unfold exclOwn; rw [hpc]; cases k <;> rfl, fun u => ?_⟩
    simp only [know, pendUse, hpc, localAcq]
    by_cases ha : o.isAcquire = true
    · simp only [ha, Bool.true_or, if_true]
      split <;> simp only [vat, vat_vjoin] <;> omega
    · simp only [ha, Bool.false_or]
      exact Nat.le_refl _
  · intro he he'
    rw [hx, he] at he'; cases he'
  · intro pc hp
    obtain rfl : (⟨k, rest, old⟩ : Pc) = pc := by simpa using hp
    exact ⟨hok', hside.congr rfl (Nat.le_refl _) rfl id⟩

/-- The load of `is_unique` by an unpinned owner: reading `0` means reading the last message as
the only holder, and then the load or the following fence acquires what the droppers released. -/
theorem uniq_wf (sh : Shape c) (h : Wf1 c s) (ht : s.thr[t]? = some th) {k : Kont}
    (hk : k = .mutate ∨ k = .unwrap) {old : Nat} (hpc : th.pc = some ⟨k, c.proto.isUnique, old⟩)
    {ch : Nat} (hch : th.coh ≤ ch) {pc' : Pc}
    (hpc' : ⟨k, norm c.ceil [.branch .eq (.lit 0) sh.uniqThen (.bool true) sh.uniqElse (.bool false)]
      (s.msgAt ch).val, (s.msgAt ch).val⟩ = pc') :
    Wf1 c (doLoad s t th ch sh.uniqLoadOrd pc') ∧ (Ords sh → Wf2 c s → Wf2 c (doLoad s t th ch sh.uniqLoadOrd pc')) := by
  obtain ⟨_, hside⟩ := h.pcok t th _ ht hpc
  have hh1 : 1 ≤ th.handles := hside.2.1 hk
  have hnp : pinned s t = false :=
    hside.2.2 (fun e => by rcases hk with rfl | rfl <;> cases e)
      (fun e => by rcases hk with rfl | rfl <;> cases e)
  have hownth := owned_uniq hk hpc
  have hxth : excl th = false := by rw [excl_uniq hk hpc, sh.huniq]; rfl
  have huse : 1 ≤ owned th ∨ th.refs ≠ [] := Or.inl (by omega)
  by_cases hv : (s.msgAt ch).val = 0
  · -- a `0` was read: it is the last message and there is one handle
    have hlast := h.zero_is_last ht (by omega) hnp hch hv
    have hle := owned_le_total s t th ht
    have htot : total s = 1 := by
      rw [hlast] at hv
      have := h.track (by omega)
      omega
    have hcode : pc' = ⟨k, armCode sh.uniqThen (.bool true), (s.msgAt ch).val⟩ := by
      rw [← hpc']; simp [norm, Cmp.eval, Bound.eval, hv]
    subst hcode
    unfold doLoad
    generalize hth' : acquireInto { th with coh := ch, pc := some ⟨k, armCode sh.uniqThen (.bool true), (s.msgAt ch).val⟩ } sh.uniqLoadOrd (s.msgAt ch).rel = th'
    have hpcth' : th'.pc = some ⟨k, armCode sh.uniqThen (.bool true), (s.msgAt ch).val⟩ := by
      subst hth'; simp
    have hhand : th'.handles = th.handles := by subst hth'; simp
    have hrefs : th'.refs = th.refs := by subst hth'; simp
    have hown' : owned th' = owned th := by rw [owned_uniq hk hpcth', hhand, hownth]
    refine ⟨h.upd ht hown' (hcoh := by subst hth'; simpa using hch)
        (hin := fun x hx => Or.inl (hrefs ▸ hx)) (hout := fun x hx => Or.inl (hrefs ▸ hx))
        (hhand := fun hh => Or.inl (hhand ▸ hh))
        (hexcl := fun _ => Or.inr ⟨hxth, htot, by omega, exclOwn_uniq hk hpcth'⟩)
        (hunexcl := fun he => by rw [hxth] at he; cases he) (hpc := fun pc hp => ?_),
      fun ho h2 => h2.upd ht (hb := Or.inr ⟨(h.user_facts ht huse).1, rfl⟩) hown' hrefs
        (hview := by subst hth'; exact vat_acquireInto_view_le { th with coh := ch, pc := some _ } _ _)
        (hexcl0 := fun _ _ => hxth) (hknow := fun _ u => ?_)⟩
    · obtain rfl := Option.some.inj (hpcth'.symm.trans hp)
      exact ⟨PcOk.uniq_ret hk (localRet_armCode _ _ sh.huniqThen),
        hside.congr rfl (Nat.le_of_eq hhand.symm) hrefs id⟩
    · refine Nat.le_trans (h2.sole_owner_knows h ht (by omega) htot (Or.inr hnp) u) ?_
      rw [← hlast]
      subst hth'
      refine le_know_acquireInto { th with coh := ch, pc := some _ } sh.uniqLoadOrd _ rfl ?_ u
      have hq := ho.uniq_acquire
      simpa [localAcq_armCode _ _ sh.huniqThen] using hq
  · -- refused: a load like any other
    have hcode : pc' = ⟨k, armCode sh.uniqElse (.bool false), (s.msgAt ch).val⟩ := by
      rw [← hpc']; simp [norm, Cmp.eval, Bound.eval, hv]
    subst hcode
    exact wf_weaken (load_wf h ht huse hxth hch sh.uniqLoadOrd (by rw [hpc]; rcases hk with rfl | rfl <;> rfl)
      (by rw [excl_uniq hk rfl, localRet_armCode _ _ sh.huniqElse]; rfl)
      ⟨PcOk.uniq_ret hk (localRet_armCode _ _ sh.huniqElse), hside.congr rfl (Nat.le_refl _) rfl id⟩)

theorem finish_wf (h : Wf1 c s) (ht : s.thr[t]? = some th) {k : Kont} {r : Ret} {tl : List AStep}
    {old : Nat} (hpc : th.pc = some ⟨k, .ret r :: tl, old⟩) {s' : State}
    (hs : finish s t { th with pc := none } k old r = some s') :
    Wf1 c s' ∧ (Wf2 c s → Wf2 c s') := by
  have hside := (h.pcok t th _ ht hpc).2
  have hpu : pendUse th = false := by simp [pendUse, hpc, localAcq]
  cases k with
  | clone =>
    have hx : excl th = false := by simp [excl, hpc]
    cases r with
    | done =>
      obtain rfl : _ = s' := Option.some.inj hs
      exact ret_wf h ht hx rfl (by simp [owned, inflight, hpc, localRet]) rfl rfl rfl (Nat.le_succ _)
    | overflow =>
      obtain rfl : _ = s' := Option.some.inj hs
      have hown : owned { tick { th with pc := none } t with res := th.res ++ [1] } = owned th := by
        simp [owned, inflight, hpc, localRet]
      exact ⟨h.retStep ht hown rfl rfl rfl (Nat.le_refl _) (fun he => by rw [hx] at he; cases he),
        fun h2 => h2.read h ht (uses_of_handles (hside.1 (Or.inl rfl))) hown rfl rfl rfl⟩
    | _ => cases hs
  | drop =>
    cases r with
    | done =>
      obtain rfl : _ = s' := Option.some.inj hs
      exact ret_wf h ht (by simp [excl, hpc, localRet]) rfl (by simp [owned, inflight, hpc, localRet])
        rfl rfl rfl (Nat.le_refl _)
    | overflow =>
      obtain rfl : _ = s' := Option.some.inj hs
      have hx : excl th = true := by simp [excl, hpc, localRet]
      have h0 : th.handles = 0 := by
        have := (h.X t th ht hx).2.1
        rwa [owned_of_excl hx, show exclOwn th = 0 by simp [exclOwn, hpc]] at this
      exact ⟨h.free ht hx ((owned_idle rfl).trans h0) rfl rfl,
        fun h2 => h2.exclAccess h ht hx hpu (Or.inr ⟨rfl, h0⟩)⟩
    | _ => cases hs
  | mutate =>
    cases r with
    | bool b =>
      cases b with
      | false =>
        obtain rfl : _ = s' := Option.some.inj hs
        exact ret_wf h ht (by simp [excl, hpc, localRet]) rfl (by simp [owned, inflight, hpc]) rfl rfl rfl
          (Nat.le_refl _)
      | true =>
        obtain rfl : _ = s' := Option.some.inj hs
        have hx : excl th = true := by simp [excl, hpc, localRet]
        have hh1 : 1 ≤ th.handles := hside.2.1 (Or.inl rfl)
        exact ⟨h.retStep ht ((owned_idle rfl).trans (owned_of_excl hx).symm) rfl rfl rfl (Nat.le_refl _)
            (fun _ => Nat.le_trans hh1 (handles_le_owned th)),
          fun h2 => h2.exclAccess h ht hx hpu (Or.inl ⟨rfl, rfl, hh1⟩)⟩
    | _ => cases hs
  | unwrap =>
    cases r with
    | bool b =>
      cases b with
      | false =>
        obtain rfl : _ = s' := Option.some.inj hs
        exact ret_wf h ht (by simp [excl, hpc, localRet]) rfl (by simp [owned, inflight, hpc]) rfl rfl rfl
          (Nat.le_refl _)
      | true =>
        obtain rfl : _ = s' := Option.some.inj hs
        have hx : excl th = true := by simp [excl, hpc, localRet]
        have h1 : th.handles = 1 := by
          have := (h.X t th ht hx).2.1
          rwa [owned_of_excl hx, exclOwn_uniq (Or.inr rfl) hpc] at this
        have h0 : th.handles - 1 = 0 := by omega
        exact ⟨h.free ht hx ((owned_idle rfl).trans h0) rfl rfl,
          fun h2 => h2.exclAccess h ht hx hpu (Or.inr ⟨rfl, h0⟩)⟩
    | _ => cases hs
  | count =>
    cases r with
    | oldPlus n =>
      obtain rfl : _ = s' := Option.some.inj hs
      exact ret_wf h ht (by simp [excl, hpc]) rfl (by simp [owned, inflight, hpc]) rfl rfl rfl (Nat.le_refl _)
    | _ => cases hs

end classes

section steps
variable {c : Cfg} (sh : Shape c) {s s' : State}
include sh

theorem start_wf (h : Wf1 c s) {t : Nat} {a : Action} (hs : startStep c s t a = some s') :
    Wf1 c s' ∧ (Wf2 c s → Wf2 c s') := by
  obtain ⟨th, ht, hpc, hs⟩ := startStep_some hs
  cases a <;> obtain ⟨hcan, rfl⟩ := hs
  · have hown : owned { tick th t with res := th.res ++ [s.pval] } = owned th := owned_congr rfl rfl
    exact ⟨h.retStep ht hown rfl hpc rfl (Nat.le_refl _)
        (fun he => by rw [excl_idle hpc] at he; cases he),
      fun h2 => h2.read h ht (uses_of_handles (canUse_iff.1 hcan)) hown rfl hpc rfl⟩
  · exact begin_wf h ht hpc (k := .clone) (by simp) (by rw [sh.hincr]; rfl) (by rw [sh.hincr]; rfl)
      ⟨Or.inl rfl, PcSide.ofUse (Or.inl rfl) (canUse_iff.1 hcan)⟩
  · obtain ⟨hh, hnp⟩ := canOwn_iff.1 hcan
    exact begin_drop_wf h ht hpc hh hnp (by rw [sh.hdecr]; rfl) (by rw [sh.hdecr]; rfl) (Or.inl rfl)
  · obtain ⟨hh, hnp⟩ := canOwn_iff.1 hcan
    exact begin_wf h ht hpc (k := .mutate) (by simp) (by rw [sh.huniq]; rfl) (by rw [sh.huniq]; rfl)
      ⟨Or.inl rfl, PcSide.ofOwn hh hnp⟩
  · obtain ⟨hh, hnp⟩ := canOwn_iff.1 hcan
    exact begin_wf h ht hpc (k := .unwrap) (by simp) (by rw [sh.huniq]; rfl) (by rw [sh.huniq]; rfl)
      ⟨Or.inl rfl, PcSide.ofOwn hh hnp⟩
  · exact begin_wf h ht hpc (k := .count) (by simp) (by rw [sh.hget]; rfl) (by rw [sh.hget]; rfl)
      ⟨Or.inl rfl, PcSide.ofUse (Or.inr rfl) (canUse_iff.1 hcan)⟩

theorem micro_wf (h : Wf1 c s) {t ch : Nat} (hs : microStep c s t ch = some s') :
    Wf1 c s' ∧ (Ords sh → Wf2 c s → Wf2 c s') := by
  have hex : ∃ th k code old, s.thr[t]? = some th ∧ th.pc = some ⟨k, code, old⟩ := by
    cases ht : s.thr[t]? with
    | none => simp [microStep, ht] at hs
    | some th =>
      cases hpc : th.pc with
      | none => simp [microStep, ht, hpc] at hs
      | some pc => exact ⟨th, pc.k, pc.code, pc.old, rfl, hpc⟩
  obtain ⟨th, k, code, old, ht, hpc⟩ := hex
  obtain ⟨hok, hside⟩ := h.pcok t th _ ht hpc
  cases hl : localRet code with
  | some r =>
    rcases localRet_cases hl with ⟨tl, rfl⟩ | ⟨o, rest, rfl, _⟩
    · obtain ⟨_, hs⟩ := (microStep_ret ht hpc).1 hs
      exact wf_weaken (finish_wf h ht hpc hs)
    · obtain ⟨_, rfl⟩ := (microStep_fence ht hpc).1 hs
      exact wf_weaken (fence_wf sh h ht hpc rfl)
  | none =>
    rcases hok.entry hl with ⟨rfl, rfl⟩ | ⟨rfl, rfl | rfl⟩ | ⟨hk, rfl⟩ | ⟨rfl, rfl⟩
    · -- the decrement of `drop`
      rw [sh.hdecr] at hpc
      obtain ⟨_, rfl⟩ := (microStep_rmwSub ht hpc).1 hs
      have hret : localRet (norm c.ceil [.branch .eq (.lit 0) sh.decrThen .overflow sh.decrElse .done] s.last.val) =
          some (if s.last.val = 0 then Ret.overflow else Ret.done) := by
        simp only [norm, Cmp.eval, Bound.eval]
        by_cases hv : s.last.val = 0
        · simp [hv, localRet_armCode _ _ sh.hdecrThen]
        · simp [hv, localRet_armCode _ _ sh.hdecrElse]
      refine ⟨h.rmwSub ht hpc rfl _ _ hret, fun ho h2 =>
        h2.rmwSub h ht hpc rfl _ _ ho.decr_release hret (fun hv => ?_) _⟩
      have := ho.decr_acquire
      simpa [norm, Cmp.eval, Bound.eval, hv, localAcq_armCode _ _ sh.hdecrThen] using this
    · -- the initial load of `clone`
      rw [sh.hincr] at hpc
      obtain ⟨hch, rfl⟩ := (microStep_load ht hpc).1 hs
      refine wf_weaken (load_wf h ht (uses_of_handles (hside.1 (Or.inl rfl))) (by simp [excl, hpc]) hch.1 _
        (by rw [hpc]; rfl) (by simp [excl]) ⟨Or.inr (Or.inl ?_), hside.congr rfl (Nat.le_refl _) rfl id⟩)
      rw [sh.hincr]; rfl
    · -- the CAS loop of `clone`
      rw [sh.hincr] at hpc
      have huse := uses_of_handles (hside.1 (Or.inl rfl))
      have hx : excl th = false := by simp [excl, hpc]
      rcases (microStep_casLoop ht hpc).1 hs with
        ⟨hlt, ⟨_, hval, rfl⟩ | ⟨i, _, hch, rfl⟩⟩ | ⟨_, _, rfl⟩
      · exact ⟨h.casSucc ht hpc rfl hval (Nat.lt_of_lt_of_le hlt sh.hbound) _,
          fun _ h2 => h2.casSucc h ht hpc _ _⟩
      · refine wf_weaken (load_wf h ht huse hx hch.1 _ (by rw [hpc]; rfl) (by simp [excl])
          ⟨Or.inr (Or.inl ?_), hside.congr rfl (Nat.le_refl _) rfl id⟩)
        rw [sh.hincr]; rfl
      · refine wf_weaken (quiet_wf h ht _ (hb := Or.inl rfl)
          (hown := by simp [owned, inflight, hpc, norm, localRet]) (hcoh := Nat.le_refl _)
          (hrefs := rfl) (hhand := Or.inl) (hview := fun u => Nat.le_refl _)
          (hexcl := fun he => by simp [excl] at he) (hunexcl := fun he => by rw [hx] at he; cases he)
          (hpc := fun pc hp => ?_))
        obtain rfl : _ = pc := Option.some.inj hp
        exact ⟨Or.inr (Or.inr (Or.inr rfl)), hside.congr rfl (Nat.le_refl _) rfl id⟩
    · -- the load of `is_unique`
      have hpc' := hpc
      rw [sh.huniq] at hpc'
      obtain ⟨hch, rfl⟩ := (microStep_load ht hpc').1 hs
      exact uniq_wf sh h ht hk hpc hch.1 rfl
    · -- the load of `get`
      rw [sh.hget] at hpc
      obtain ⟨hch, rfl⟩ := (microStep_load ht hpc).1 hs
      exact wf_weaken (load_wf h ht (uses_of_handles (hside.1 (Or.inr rfl))) (by simp [excl, hpc]) hch.1 _
        (by rw [hpc]; rfl) (by simp [excl]) ⟨Or.inr ⟨sh.getPlus, rfl⟩, hside.congr rfl (Nat.le_refl _) rfl id⟩)

theorem step_wf (h : Wf1 c s) (l : Label) (hs : step c s l = some s') :
    Wf1 c s' ∧ (Ords sh → Wf2 c s → Wf2 c s') := by
  cases l with
  | start t a => exact wf_weaken (start_wf sh h hs)
  | micro t ch => exact micro_wf sh h hs
  | send t u =>
    obtain ⟨th, uh, ht, hu, htu, hpt, hpu, hcan, rfl⟩ := sendStep_some hs
    obtain ⟨hh, hnp⟩ := canOwn_iff.1 hcan
    exact ⟨h.send ht hu htu hpt hpu hh hnp _ _ _ rfl rfl,
      fun _ h2 => h2.send h ht hu htu hpt hpu hh _ _ _ rfl rfl⟩
  | borrow t u =>
    obtain ⟨th, uh, ht, hu, htu, hpt, hpu, hh, rfl⟩ := borrowStep_some hs
    exact ⟨h.borrow ht hu htu hpt hpu (by omega) _ _ rfl,
      fun _ h2 => h2.borrow ht hu hpt (by omega) _ _ rfl⟩
  | unborrow t u =>
    obtain ⟨th, uh, ht, hu, htu, hpt, hpu, hm, rfl⟩ := unborrowStep_some hs
    exact ⟨h.unborrow ht hu htu hpt hpu hm _ _ _ rfl rfl,
      fun _ h2 => h2.unborrow h ht hu htu hpt hpu hm _ _ _ rfl rfl⟩

theorem run_wf (h : Wf1 c s) (ls : List Label) (hr : run c s ls = some s') :
    Wf1 c s' ∧ (Ords sh → Wf2 c s → Wf2 c s') := by
  induction ls generalizing s with
  | nil => obtain rfl : s = s' := Option.some.inj hr; exact ⟨h, fun _ h2 => h2⟩
  | cons l ls ih =>
    simp only [run] at hr
    split at hr
    · cases hr
    · rename_i s1 hs1
      obtain ⟨h1, h2⟩ := step_wf sh h l hs1
      exact (ih h1 hr).imp id fun h3 ho hw => h3 ho (h2 ho hw)

end steps

theorem total_init (hs : List Nat) : total (init hs) = hs.sum := by
  simp only [total, init, List.map_map]
  congr 1
  induction hs with
  | nil => rfl
  | cons a l ih => simp [ih, owned, inflight, Thread.init]

theorem init_thread {hs : List Nat} {t : Nat} {th : Thread} (ht : (init hs).thr[t]? = some th) :
    ∃ n, th = Thread.init n := by
  simp only [init, List.getElem?_map, Option.map_eq_some_iff] at ht
  obtain ⟨n, _, rfl⟩ := ht
  exact ⟨n, rfl⟩

theorem Wf1.init {c : Cfg} (hs : List Nat) (h1 : 1 ≤ hs.sum) (h2 : hs.sum ≤ c.ceil + 1) :
    Wf1 c (init hs) := by
  refine ⟨?_, ?_, ?_, ?_, ?_, ?_, ⟨Nat.zero_le _, fun hf => by cases hf⟩, ?_⟩
  · intro _; rw [total_init]; show hs.sum - 1 + 1 = hs.sum; omega
  · intro _; show hs.sum - 1 ≤ c.ceil; omega
  · intro i m hi; cases hi
  · intro t th pc ht hp
    obtain ⟨n, rfl⟩ := init_thread ht
    cases hp
  · intro w wh u hw hm
    obtain ⟨n, rfl⟩ := init_thread hw
    cases hm
  · intro t th ht he
    obtain ⟨n, rfl⟩ := init_thread ht
    cases he
  · rw [total_init]; intro h0; omega

theorem Wf2.init {c : Cfg} (hs : List Nat) : Wf2 c (init hs) := by
  refine ⟨fun _ _ _ => Nat.zero_le _, fun _ _ => rfl, fun _ _ _ _ _ _ _ => Or.inl (Nat.zero_le _),
    fun _ _ _ _ _ => Nat.zero_le _, fun _ _ _ _ _ => Nat.zero_le _, rfl, rfl⟩

end HipVerif.Model.Conc
