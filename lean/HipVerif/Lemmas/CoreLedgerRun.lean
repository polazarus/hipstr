/-
C03 at the buffer level: along every history of the Core state machine the allocator-visible
events balance.  Every buffer identity enters the system at most once, leaves at most once and
only after entering, is written only while it is in and only within the capacity it entered with;
and the buffers that entered and have not left are exactly the buffers (capacity > 0) of the live
boxes — so once every value is gone every buffer has left (no leak, no double free).

The model is strict about capacity-0 Vecs (they own no allocation): no `exportBuf` and no `write`
is emitted for them, so every clause below holds without exception.
-/
import HipVerif.Lemmas.CoreMoveStep
import HipVerif.Lemmas.CoreLedgerTrace
import HipVerif.Lemmas.CoreHeapFacts

namespace HipVerif.Core
open HipVerif.Spec.Std

variable {cfg : Cfg}

/-- The invariant of a history that produced the events `evs` and ended in `s`: every event passed
its ledger check and the ledger computed from the events alone describes exactly the buffers of the
live boxes of `s`. -/
structure LedgerOk (cfg : Cfg) (s : State) (evs : List Event) : Prop where
  wf : Wf cfg s
  accepted : Accepted Ledger.empty evs
  inv : LInv s (Ledger.empty.run evs) none

/-- C03: the ledger invariant holds of a state without boxes and the empty history. -/
theorem ledger_init {s0 : State} (w : Wf cfg s0) (h0 : s0.inners = []) : LedgerOk cfg s0 [] := by
  have h := lInv_of_wf w
  have he : ledgerOf s0 = Ledger.empty := by unfold ledgerOf; rw [h0]; rfl
  rw [he] at h
  exact ⟨w, trivial, h⟩

/-- C03: every operation preserves the ledger invariant. -/
theorem ledger_step {s : State} {evs : List Event} (h : LedgerOk cfg s evs) (op : Op) :
    LedgerOk cfg (step cfg s op).1 (evs ++ (step cfg s op).2.events) := by
  obtain ⟨t1, t2⟩ := step_trans h.wf op _ h.inv
  exact ⟨wf_step cfg s op h.wf, accepted_append.mpr ⟨h.accepted, t1⟩, by rw [Ledger.run_append]; exact t2⟩

/-- C03: every history preserves the ledger invariant. -/
theorem ledger_run (ops : List Op) : ∀ {s : State} {evs : List Event}, LedgerOk cfg s evs →
    LedgerOk cfg (run cfg s ops).1 (evs ++ runEvents cfg s ops) := by
  induction ops with
  | nil => intro s evs h; simpa [runEvents, run] using h
  | cons op ops ih =>
    intro s evs h
    have := ih (ledger_step h op)
    show LedgerOk cfg (run cfg (step cfg s op).1 ops).1 _
    simpa [runEvents, List.append_assoc] using this

theorem LedgerOk.live_iff {s : State} {evs : List Event} (h : LedgerOk cfg s evs) (b c : Nat) :
    (b, c) ∈ (Ledger.empty.run evs).live ↔
      0 < c ∧ ∃ j y, getI s j = some y ∧ y.live = true ∧ y.buf = b ∧ y.cap = c := by
  rw [h.inv.live_iff, ownsAt_box_iff]

/-- C03: once every value has been dropped or converted away (every slot is empty) no buffer is left
in the system. -/
theorem no_buffer_leak {s : State} {evs : List Event} (h : LedgerOk cfg s evs) (hnone : ∀ k, getH s k = none) :
    (Ledger.empty.run evs).live = [] := by
  apply List.eq_nil_iff_forall_not_mem.mpr
  rintro ⟨b, c⟩ hm
  obtain ⟨_, j, y, hy, hl, _⟩ := (h.live_iff b c).mp hm
  have := all_dropped_all_freed h.wf hnone j y hy
  rw [hl] at this; cases this

/-- C03: in every history from a state without boxes each buffer identity enters (`allocBuf`,
`importBuf`, new side of `growBuf`) at most once, leaves (`freeBuf`, `exportBuf`, old side of
`growBuf`) at most once and only after it entered; the buffers that entered and have not left are
exactly those of the live boxes whose `Vec` has capacity `> 0`, each owned by one live box. -/
theorem buffers_balanced {s0 : State} (w : Wf cfg s0) (h0 : s0.inners = []) (ops : List Op) :
    Accepted Ledger.empty (runEvents cfg s0 ops) ∧
    (∀ b, (runEvents cfg s0 ops).countP (fun e => entersId e == some b) ≤ 1) ∧
    (∀ b, (runEvents cfg s0 ops).countP (fun e => leavesId e == some b) ≤ 1) ∧
    (∀ pre e post b, runEvents cfg s0 ops = pre ++ e :: post → leavesId e = some b →
      ∃ e', e' ∈ pre ∧ entersId e' = some b) ∧
    (∀ b c, (b, c) ∈ (Ledger.empty.run (runEvents cfg s0 ops)).live ↔
      0 < c ∧ ∃ j y, getI (run cfg s0 ops).1 j = some y ∧ y.live = true ∧ y.buf = b ∧ y.cap = c) ∧
    (∀ j j' y y', getI (run cfg s0 ops).1 j = some y → getI (run cfg s0 ops).1 j' = some y' →
      y.live = true → y'.live = true → y.buf = y'.buf → j = j') := by
  have hL := ledger_run (cfg := cfg) ops (ledger_init w h0)
  simp only [List.nil_append] at hL
  have hacc := hL.accepted
  refine ⟨hacc, ?_, ?_, ?_, hL.live_iff, fun j j' y y' hy hy' hl hl' hb =>
    Classical.byContradiction (fun hne => hL.wf.bufDistinct j j' y y' hy hy' hne hl hl' hb)⟩
  · intro b
    have := enters_at_most_once _ hacc b
    split at this <;> omega
  · intro b
    have := leaves_at_most_once _ ledgerWf_empty hacc b
    split at this <;> omega
  · intro pre e post b hsplit hleave
    exact leaves_after_enter hacc hsplit hleave

/-- C03: on every prefix of the events of every history `#leaves(b) ≤ #enters(b) ≤ 1`: at no moment
has a buffer been released more often than it was obtained, and no identity is obtained twice. -/
theorem enter_leave_pairing {s0 : State} (w : Wf cfg s0) (h0 : s0.inners = []) (ops : List Op)
    {pre post : List Event} (hsplit : runEvents cfg s0 ops = pre ++ post) (b : Nat) :
    pre.countP (fun e => leavesId e == some b) ≤ pre.countP (fun e => entersId e == some b) ∧
    pre.countP (fun e => entersId e == some b) ≤ 1 := by
  have hacc := (buffers_balanced (cfg := cfg) w h0 ops).1
  rw [hsplit] at hacc
  exact enter_leave_counts (accepted_append.mp hacc).1 b

/-- C03: the buffer of a live box whose `Vec` has capacity `c > 0` was obtained exactly once in the
history, with that very capacity, and never released. -/
theorem live_box_buffer_entered {s0 : State} (w : Wf cfg s0) (h0 : s0.inners = []) (ops : List Op)
    {j : Nat} {y : Inner} (hy : getI (run cfg s0 ops).1 j = some y) (hl : y.live = true) (hc : 0 < y.cap) :
    (runEvents cfg s0 ops).countP (fun e => entersId e == some y.buf) = 1 ∧
    (runEvents cfg s0 ops).countP (fun e => leavesId e == some y.buf) = 0 ∧
    ∃ e, e ∈ runEvents cfg s0 ops ∧ entersWith e = some (y.buf, y.cap) := by
  obtain ⟨hacc, _, _, _, hiff, _⟩ := buffers_balanced (cfg := cfg) w h0 ops
  exact live_entered_once_never_left hacc ((hiff y.buf y.cap).mpr ⟨hc, j, y, hy, hl, rfl, rfl⟩)

/-- C03: once all values are gone every buffer that entered has left. -/
theorem all_buffers_released {s0 : State} (w : Wf cfg s0) (h0 : s0.inners = []) (ops : List Op)
    (hnone : ∀ k, getH (run cfg s0 ops).1 k = none) {e : Event} {b : Nat}
    (he : e ∈ runEvents cfg s0 ops) (hent : entersId e = some b) :
    ∃ e', e' ∈ runEvents cfg s0 ops ∧ leavesId e' = some b := by
  have hL := ledger_run (cfg := cfg) ops (ledger_init w h0)
  simp only [List.nil_append] at hL
  have hempty := no_buffer_leak hL hnone
  obtain ⟨pre, post, hsplit⟩ := List.append_of_mem he
  have hin : b ∈ ((Ledger.empty.run pre).apply e).liveIds := by
    cases e <;> simp [entersId, entersWith] at hent <;> subst hent <;> simp [Ledger.apply, Ledger.liveIds, Ledger.enter]
  obtain ⟨c, hc⟩ := Ledger.mem_liveIds.mp hin
  rcases live_stays_or_leaves post _ b c hc with hstay | ⟨e', he', hl⟩
  · exfalso
    have : (Ledger.empty.run (runEvents cfg s0 ops)) = ((Ledger.empty.run pre).apply e).run post := by
      rw [hsplit, Ledger.run_append]; rfl
    rw [this] at hempty
    rw [hempty] at hstay; cases hstay
  · exact ⟨e', by rw [hsplit]; exact List.mem_append.mpr (Or.inr (List.mem_cons_of_mem _ he')), hl⟩

/-- C03: at every `write b lo hi` of a history buffer `b` is in the system and `hi` is at most the
capacity of the event with which `b` entered (identities are never reused: a reallocation gets a
new one).  This covers the temporary `Vec`s of `Vec::from(hip)` and of a `mutate` guard too. -/
theorem writes_within_cap {s0 : State} (w : Wf cfg s0) (h0 : s0.inners = []) (ops : List Op)
    {pre post : List Event} {b lo hi : Nat}
    (hsplit : runEvents cfg s0 ops = pre ++ Event.write b lo hi :: post) :
    lo ≤ hi ∧
    ∃ c, (b, c) ∈ (Ledger.empty.run pre).live ∧ hi ≤ c ∧ ∃ e', e' ∈ pre ∧ entersWith e' = some (b, c) := by
  have hacc := (buffers_balanced (cfg := cfg) w h0 ops).1
  rw [hsplit] at hacc
  obtain ⟨_, hgood, _⟩ := accepted_split hacc
  obtain ⟨hlh, c, hc, hle⟩ := hgood
  refine ⟨hlh, c, hc, hle, ?_⟩
  rcases live_entered pre Ledger.empty b c hc with h | h
  · cases h
  · exact h

/-- C03: no write to a buffer after it left the system (freed, exported, or reallocated away). -/
theorem no_write_after_leave {s0 : State} (w : Wf cfg s0) (h0 : s0.inners = []) (ops : List Op)
    {pre post : List Event} {e : Event} {b : Nat}
    (hsplit : runEvents cfg s0 ops = pre ++ e :: post) (hleave : leavesId e = some b) :
    ∀ lo hi, Event.write b lo hi ∉ post := by
  have hacc := (buffers_balanced (cfg := cfg) w h0 ops).1
  rw [hsplit] at hacc
  obtain ⟨hpre, hgood, hpost⟩ := accepted_split hacc
  have hw := ledgerWf_apply (ledgerWf_run ledgerWf_empty hpre) hgood
  exact no_write_when_gone post hw hpost b (Ledger.leaves_gone _ hleave)

end HipVerif.Core

namespace HipVerif.Core
/-- non-vacuity: the initial states of the model satisfy the hypotheses of the theorems above -/
example (cfg : Cfg) (srcs : List (List UInt8)) (n : Nat) : LedgerOk cfg (init srcs n) [] :=
  ledger_init (wf_init cfg srcs n) rfl
end HipVerif.Core
