/-
The slot-level InlineVec operations, fault-free, against the list-level model `IV.step`
(Model/Vecs.lean): operation mapping `toIVOp`, value correspondence `retMatch`, one lemma per
operation (`RefIV`: returned value, contents, capacity), and their dispatch `iStep_refines`.
-/
import HipVerif.Lemmas.SlotsRefine
namespace HipVerif.Slots
variable {fl : Bool}
open HipVerif.Vecs (IV TV Outcome Val Reason PanicClass DrainEnd Src)
open HipVerif.Spec.Vec (Bnd Side)

/-- the list-level pulls that a slot-level pull stands for: `nth(k)` = `k + 1` times `next`
(the skipped items are dropped instead of handed out, which the list model does not tell apart) -/
def sidesOf : IStep → List Side
  | .front => [.front]
  | .back => [.back]
  | .nth k => List.replicate (k + 1) .front
  | .nthBack k => List.replicate (k + 1) .back

/-- every way of using up the iterator (`drop`, `last`, `count`, `fold`, `rfold`) ends with its
`Drop`; only `mem::forget` does not -/
def finOf : IFin → DrainEnd
  | .leak => .leak
  | _ => .drop

def absIV (s : St) : IV Nat := ⟨s.v.cap, absL s⟩

def retMatch : Ret → Outcome Nat → Prop
  | .unit, .ok .unit => True
  | .unit, .ok (.items _) => True
  | .none, .ok (.opt none) => True
  | .some a, .ok (.opt (some b)) => a = b
  | .some a, .ok (.elem b) => a = b
  | .errFull a, .err .full (.elem b) => a = b
  | .errOob a, .err .outOfBounds (.elem b) => a = b
  | .panic, .panic c => c ≠ .unreachable
  | _, _ => False

/-- The list-model operation that a slot-model operation on an InlineVec stands for. The values a
slot operation creates are the fresh ids `next, next+1, …` of the state it starts from; clones are
fresh ids too (the list model is told the ids that get appended). -/
def toIVOp (s : St) : Op → Option (Vecs.Op Nat)
  | .push => some (.push s.mem.next)
  | .tryPush => some (.tryPush s.mem.next)
  | .pop => some .pop
  | .popIf b => some (.popIf b)
  | .insert i => some (.insert i s.mem.next)
  | .tryInsert i => some (.tryInsert i s.mem.next)
  | .remove i => some (.remove i)
  | .swapRemove i => some (.swapRemove i)
  | .truncate n => some (.truncate n)
  | .clear => some .clear
  | .resize n => some (.resizeWith n (fun k => s.mem.next + 1 + k))
  | .resizeWith n => some (.resizeWith n (fun k => s.mem.next + k))
  | .extSlice n => some (.extendFromSlice (List.range' (s.mem.next + n) n))
  | .extWithin a b =>
    if a ≤ b ∧ b ≤ s.v.len then some (.extendFromSlice (List.range' s.mem.next (b - a)))
    else some (.extendFromWithin (.incl a) (.excl b))
  | .extIter h n => some (.extend h (List.range' s.mem.next n))
  | .clone => some .clone
  | .append n => some (.append (List.range' s.mem.next n))
  | .splitOff a => some (.splitOff a)
  | .drain a b sc f => some (.drain (.incl a) (.excl b) (sc.flatMap sidesOf) (finOf f))
  | .intoIter sc _ => some (.intoIter (sc.flatMap sidesOf))
  | .roundtrip => some (.from .other 0 (absL s))
  | .reserve _ | .shrinkFit | .dropVec | .fromIter _ _ => none

theorem rangeMono_valid {a b len : Nat} (h : a ≤ b ∧ b ≤ len) :
    Vecs.rangeMono (.incl a) (.excl b) len = .ok (a, b) := by
  simp only [Vecs.rangeMono]
  simp [show ¬ a > b by omega, show ¬ b > len by omega]

theorem rangeMono_invalid {a b len : Nat} (h : ¬ (a ≤ b ∧ b ≤ len)) :
    ∃ e, Vecs.rangeMono (.incl a) (.excl b) len = .error e := by
  simp only [Vecs.rangeMono]
  by_cases hab : a > b
  · exact ⟨.startGreaterThanEnd a b, by simp [hab]⟩
  · have : b > len := by omega
    exact ⟨.endOutOfBounds b len, by simp [hab, this]⟩

theorem take_range' : ∀ (k s n : Nat), (List.range' s n).take k = List.range' s (min k n)
  | 0, _, _ => by simp
  | k + 1, s, 0 => by simp
  | k + 1, s, n + 1 => by
    rw [List.range'_succ, List.take_succ_cons, take_range' k (s + 1) n,
      show min (k + 1) (n + 1) = min k n + 1 by omega, List.range'_succ]

structure RefIV (s : St) (r : Ret × St) (q : Outcome Nat × IV Nat) : Prop where
  ret : retMatch r.1 q.1
  post : Post s r.2 q.2.xs
  cap : q.2.cap = s.v.cap

theorem iTryPush_refines {s : St} {L : List Nat} (hv : LocalVec s.v L) :
    RefIV s (iTryPush s) ((⟨s.v.cap, L⟩ : IV Nat).tryPush s.mem.next) := by
  unfold iTryPush IV.tryPush
  dsimp only [St.onMem, Mem.mkVal]
  rw [hv.1]
  split
  · exact ⟨trivial,
      Post.of_mkVal (St.store_post _ hv (by assumption)), rfl⟩
  · exact ⟨rfl, Post.same hv rfl, rfl⟩

theorem iPush_refines {s : St} {L : List Nat} (hv : LocalVec s.v L) :
    RefIV s (iPush s) ((⟨s.v.cap, L⟩ : IV Nat).push s.mem.next) := by
  unfold iPush IV.push IV.tryPush
  dsimp only [St.onMem, Mem.mkVal]
  rw [hv.1]
  split
  · exact ⟨trivial,
      Post.of_mkVal (St.store_post _ hv (by assumption)), rfl⟩
  · exact ⟨nofun, Post.same hv rfl, rfl⟩

theorem iTryInsert_refines {s : St} {L : List Nat} (i : Nat) (hv : LocalVec s.v L) :
    RefIV s (iTryInsert i s) ((⟨s.v.cap, L⟩ : IV Nat).tryInsert i s.mem.next) := by
  have hle := hv.len_le
  unfold iTryInsert IV.tryInsert
  dsimp only [St.onMem, Mem.mkVal]
  rw [hv.1]
  split
  · exact ⟨rfl, Post.same hv rfl, rfl⟩
  · split
    · exact ⟨rfl, Post.same hv rfl, rfl⟩
    · rename_i h1 h2
      exact ⟨trivial, Post.of_mkVal (LocalVec.insertCore
        (s := (s.onMem Mem.mkVal).2) s.mem.next i hv (Nat.le_of_not_lt h1)
        (Nat.lt_of_le_of_ne hle h2)).1, rfl⟩

theorem iInsert_refines {s : St} {L : List Nat} (i : Nat) (hv : LocalVec s.v L) :
    RefIV s (iInsert i s) ((⟨s.v.cap, L⟩ : IV Nat).insert i s.mem.next) := by
  have hle := hv.len_le
  unfold iInsert IV.insert IV.tryInsert
  dsimp only [St.onMem, Mem.mkVal]
  rw [hv.1]
  by_cases h1 : i > L.length
  · rw [if_pos (Or.inl h1), if_pos h1]
    exact ⟨nofun, Post.same hv rfl, rfl⟩
  · by_cases h2 : L.length = s.v.cap
    · rw [if_pos (Or.inr h2), if_neg h1, if_pos h2]
      exact ⟨nofun, Post.same hv rfl, rfl⟩
    · rw [if_neg (fun hh => hh.elim h1 h2), if_neg h1, if_neg h2]
      exact ⟨trivial, Post.of_mkVal (LocalVec.insertCore
        (s := (s.onMem Mem.mkVal).2) s.mem.next i hv (Nat.le_of_not_lt h1)
        (Nat.lt_of_le_of_ne hle h2)).1, rfl⟩

theorem iPop_refines {s : St} {L : List Nat} (hv : LocalVec s.v L) :
    RefIV s (iPop s) (⟨s.v.cap, L⟩ : IV Nat).pop := by
  obtain ⟨r, p⟩ := iPop_spec hv
  rw [IV.pop_spec]
  refine ⟨?_, p, rfl⟩
  rw [r]
  simp only [HipVerif.Spec.Vec.pop]
  cases L.getLast? <;> simp [retMatch]

theorem RefIV.of_eq {s s1 : St} {r : Ret × St} {q : Outcome Nat × IV Nat} (h : s1.v = s.v)
    (hr : RefIV s1 r q) : RefIV s r q :=
  ⟨hr.ret, hr.post.of_eq h, by rw [hr.cap, h]⟩

theorem iPopIf_refines {s : St} {L : List Nat} (ans : Bool) (hv : LocalVec s.v L)
    (hb : s.mem.budget = none) :
    RefIV s (iPopIf ans s) ((⟨s.v.cap, L⟩ : IV Nat).popIf ans) := by
  unfold iPopIf IV.popIf
  rw [hv.1]
  split
  · exact ⟨trivial, Post.same hv rfl, rfl⟩
  · obtain ⟨t1, t2, -⟩ := St.tick_quiet hb
    generalize s.onMem Mem.tick = r at t1 t2
    obtain ⟨p, s1⟩ := r
    simp only at t1 t2 ⊢
    subst t1
    simp only [Bool.false_eq_true, if_false]
    split
    · rw [← t2]; exact (iPop_refines (t2 ▸ hv)).of_eq t2
    · exact ⟨trivial, Post.same hv t2, rfl⟩

theorem iRemove_refines {s : St} {L : List Nat} (i : Nat) (hv : LocalVec s.v L) :
    RefIV s (iRemove i s) ((⟨s.v.cap, L⟩ : IV Nat).remove i) := by
  obtain ⟨r, p, -⟩ := iRemove_spec i hv
  unfold IV.remove
  dsimp only
  by_cases hi : i < L.length
  · rw [if_pos hi, List.getElem?_eq_getElem hi]
    rw [List.getElem?_eq_getElem hi] at r
    exact ⟨by rw [r]; rfl, p, rfl⟩
  · rw [if_neg hi]
    rw [List.getElem?_eq_none (by omega)] at r
    rw [List.take_of_length_le (by omega), List.drop_of_length_le (by omega), List.append_nil] at p
    exact ⟨by rw [r]; nofun, p, rfl⟩

theorem iSwapRemove_refines {s : St} {L : List Nat} (i : Nat) (hv : LocalVec s.v L) :
    RefIV s (iSwapRemove i s) ((⟨s.v.cap, L⟩ : IV Nat).swapRemove i) := by
  obtain ⟨r, p, -⟩ := iSwapRemove_spec i hv
  unfold IV.swapRemove
  dsimp only
  by_cases hi : i < L.length
  · obtain ⟨a, l, w1, w2, w3, w4⟩ := Vecs.swap_last L i hi
    rw [if_pos hi, w3, w4]
    unfold swapRemoved at p
    rw [w1, w2] at p
    rw [w1] at r
    exact ⟨by rw [r]; rfl, p, rfl⟩
  · rw [if_neg hi]
    rw [swapRemoved_of_ge hi] at p
    rw [List.getElem?_eq_none (by omega)] at r
    exact ⟨by rw [r]; nofun, p, rfl⟩

theorem truncate_refines {s : St} {L : List Nat} {n : Nat} {r : Bool × St} (h1 : r.1 = false)
    (h2 : Post s r.2 (L.take n)) : RefIV s (liftB r) ((⟨s.v.cap, L⟩ : IV Nat).truncate n) := by
  rw [IV.truncate_eq]
  unfold liftB
  rw [h1]
  exact ⟨trivial, h2, rfl⟩

theorem iTruncate_refines {s : St} {L : List Nat} (n : Nat) (hv : LocalVec s.v L)
    (hb : s.mem.budget = none) :
    RefIV s (liftB (iTruncate n s)) ((⟨s.v.cap, L⟩ : IV Nat).truncate n) :=
  truncate_refines (iTruncate_spec n hv hb).1 (iTruncate_spec n hv hb).2.1

theorem resizeBody_refines {s : St} {L : List Nat} (src : Option Nat) (n : Nat)
    (hv : LocalVec s.v L) (hb : s.mem.budget = none) {r : Bool × St}
    (hr : r = if n > s.v.len then
        (if n ≤ s.v.cap then storeLoop (List.replicate (n - s.v.len) src) s else (true, s))
      else iTruncate n s) :
    RefIV s (liftB r) ((⟨s.v.cap, L⟩ : IV Nat).resizeWith n (fun k => s.mem.next + k)) ∧
      r.2.mem.budget = none := by
  subst hr
  unfold IV.resizeWith liftB
  dsimp only
  rw [hv.1]
  split
  · split
    · have := storeLoop_filled (List.replicate (n - L.length) src) s L hv hb (by simp; omega)
      rw [List.length_replicate] at this
      rw [this.ok, ← List.range'_eq_map_range]
      exact ⟨⟨trivial, this.post, rfl⟩, this.budget⟩
    · exact ⟨⟨nofun, Post.same hv rfl, rfl⟩, hb⟩
  · exact ⟨iTruncate_refines n hv hb, (iTruncate_spec n hv hb).2.2⟩

theorem iResizeWith_refines {s : St} {L : List Nat} (n : Nat) (hv : LocalVec s.v L)
    (hb : s.mem.budget = none) :
    RefIV s (liftB (iResizeWith n s))
      ((⟨s.v.cap, L⟩ : IV Nat).resizeWith n (fun k => s.mem.next + k)) :=
  (resizeBody_refines none n hv hb (by unfold iResizeWith; simp only [iFillGen_eq])).1

theorem RefIV.then_drop {s s1 : St} {r : Bool × St} {q : Outcome Nat × IV Nat} (a : Nat)
    (h : RefIV s1 (liftB r) q) (hv : s1.v = s.v) (hb : r.2.mem.budget = none) :
    RefIV s (liftB (r.1 || (r.2.onMem (Mem.dropId a)).1, (r.2.onMem (Mem.dropId a)).2)) q := by
  refine ⟨?_, (h.post.of_eq hv).then_mem rfl, by rw [h.cap, hv]⟩
  simp only [liftB, St.onMem_fst, Mem.dropId_of_none hb, Bool.or_false]
  exact h.ret

theorem iResize_refines {s : St} {L : List Nat} (n : Nat) (hv : LocalVec s.v L)
    (hb : s.mem.budget = none) :
    RefIV s (liftB (iResize n s))
      ((⟨s.v.cap, L⟩ : IV Nat).resizeWith n (fun k => s.mem.next + 1 + k)) := by
  obtain ⟨h1, h2⟩ := resizeBody_refines (s := (s.onMem Mem.mkVal).2) (some s.mem.next) n hv hb rfl
  unfold iResize
  simp only [iFillClone_eq]
  exact h1.then_drop _ rfl h2

theorem iExtSlice_refines {s : St} {L : List Nat} (n : Nat) (hv : LocalVec s.v L)
    (hb : s.mem.budget = none) :
    RefIV s (liftB (iExtSlice n s))
      ((⟨s.v.cap, L⟩ : IV Nat).extendFromSlice (List.range' (s.mem.next + n) n)) := by
  unfold iExtSlice IV.extendFromSlice liftB
  obtain ⟨m1, m2, m3, m4, -⟩ := mkVals_spec n s
  generalize mkVals n s = r at m1 m2 m3 m4
  obtain ⟨srcs, s1⟩ := r
  simp only [List.length_range'] at m1 m2 m3 m4 ⊢
  have hl : (srcs.map some).length = n := by rw [m1]; simp
  rw [m2, hv.1]
  split
  · rename_i h
    rw [iCloneIds_eq]
    have := storeLoop_filled (srcs.map some) s1 L (by rw [m2]; exact hv) (by rw [m4]; exact hb)
      (by rw [m2, hl]; exact h)
    rw [hl] at this
    rw [this.ok]
    exact ⟨trivial, ((m3 ▸ this.post).of_eq m2).then_mem rfl, rfl⟩
  · exact ⟨nofun, Post.same hv m2, rfl⟩

/-- `extend_from_within(a..b)`: the list model is told the clone ids when the range is valid, and
the range itself when it is not (both panic then) -/
theorem iExtWithin_refines {s : St} {L : List Nat} (a b : Nat) (hv : LocalVec s.v L)
    (hb : s.mem.budget = none) (hout : ∀ x ∈ L, x ∉ s.mem.out) :
    RefIV s (liftB (iExtWithin a b s)) (if a ≤ b ∧ b ≤ L.length
      then (⟨s.v.cap, L⟩ : IV Nat).extendFromSlice (List.range' s.mem.next (b - a))
      else (⟨s.v.cap, L⟩ : IV Nat).extendFromWithin (.incl a) (.excl b)) := by
  unfold iExtWithin liftB
  rw [hv.1]
  split
  · rename_i h1
    unfold IV.extendFromSlice
    simp only [List.length_range']
    split
    · rename_i h2
      rw [hv.range_sub h1.1 h1.2, iCloneSlots_eq _ s
        (fun x hx => hout x (List.mem_of_mem_drop (List.mem_of_mem_take hx)))]
      have := storeLoop_filled (((L.drop a).take (b - a)).map some) s L hv hb (by simp; omega)
      rw [show (((L.drop a).take (b - a)).map some).length = b - a by simp; omega] at this
      rw [this.ok]
      exact ⟨trivial, this.post, rfl⟩
    · exact ⟨nofun, Post.same hv rfl, rfl⟩
  · rename_i h1
    obtain ⟨e, he⟩ := rangeMono_invalid (len := L.length) h1
    simp only [IV.extendFromWithin, he]
    exact ⟨nofun, Post.same hv rfl, rfl⟩

theorem iExtend_refines {s : St} {L : List Nat} (k : Nat) (hv : LocalVec s.v L)
    (hb : s.mem.budget = none) :
    RefIV s (liftB (iExtend k s)) ((⟨s.v.cap, L⟩ : IV Nat).extend (List.range' s.mem.next k)) := by
  have hle := hv.len_le
  unfold liftB boolRet iExtend
  -- the user calls around the loop (`into_iter`, the iterator's drop) only move the call counter
  obtain ⟨t1, t2, t3, t4, -⟩ := St.tick_quiet hb
  generalize s.onMem Mem.tick = r at t1 t2 t3 t4
  obtain ⟨p, s1⟩ := r
  simp only at t1 t2 t3 t4 ⊢
  subst t1
  simp only [Bool.false_eq_true, if_false]
  obtain ⟨r1, r2, hb2⟩ := iExtIter_spec k s1 L (by rw [t2]; exact hv) t4
  rw [t2] at r1
  rw [t2, t3] at r2
  rw [r1, (St.tick_quiet hb2).1, Bool.or_false]
  have p := (r2.of_eq t2).then_mem (s'' := ((iExtIter k s1).2.onMem Mem.tick).2) rfl
  by_cases hc : L.length + k ≤ s.v.cap
  · rw [IV.extend_spec _ _ (by simpa using hc)]
    rw [show min k (s.v.cap - L.length) = k by omega] at p
    exact ⟨by simp [show ¬ s.v.cap < L.length + k by omega, retMatch], p, rfl⟩
  · rw [IV.extend_exceed _ _ hle (by simp; omega), take_range',
      show min (s.v.cap - L.length) k = min k (s.v.cap - L.length) by omega]
    exact ⟨by simp [show s.v.cap < L.length + k by omega, retMatch], p, rfl⟩

theorem iClone_refines {s : St} {L : List Nat} (hv : LocalVec s.v L) (hb : s.mem.budget = none)
    (hout : ∀ x ∈ L, x ∉ s.mem.out) : RefIV s (liftB (iClone s)) (⟨s.v.cap, L⟩ : IV Nat).clone := by
  unfold liftB IV.clone IV.new IV.extendFromSlice iClone
  simp only [List.length_nil, Nat.zero_add, hv.len_le, if_true, List.nil_append]
  rw [hv.range]
  obtain ⟨r1, r2, r3⟩ := cloneIntoLocal_quiet L (iNew s.v.cap) s hb hout
  generalize cloneIntoLocal (L.map .init) (iNew s.v.cap) s = r at r1 r2 r3
  obtain ⟨p, o, s1⟩ := r
  simp only at r1 r2 r3 ⊢
  rw [r1, St.onMem_fst, (Mem.dropLoop_of_none _ _ r3).1]
  exact ⟨trivial, Post.same hv (by rw [St.onMem_v, r2]), rfl⟩

theorem iAppend_refines {s : St} {L : List Nat} (n : Nat) (hv : LocalVec s.v L) :
    RefIV s (liftB (iAppend n s)) ((⟨s.v.cap, L⟩ : IV Nat).append (List.range' s.mem.next n)) := by
  unfold iAppend IV.append liftB
  obtain ⟨m1, m2, -⟩ := mkVals_spec n s
  generalize mkVals n s = r at m1 m2
  obtain ⟨ids, s1⟩ := r
  simp only [List.length_range'] at m1 m2 ⊢
  have hl : ids.length = n := by rw [m1]; simp
  have hr := fun c => (LocalVec.of_ids (c := c) (hd := {}) hl).range
  simp only at hr
  by_cases h : L.length + n ≤ s.v.cap
  · rw [if_pos (by rw [m2, hv.1]; exact h), if_pos h, ← m1]
    obtain ⟨p, -⟩ := St.wrChunk_post (s := s1) (T := ids) (by rw [m2]; exact hv)
      (by rw [hl, m2]; exact h)
    rw [hl] at p
    simp only [hr, Vec.setLen, Vec.range_zero_zero, St.wrChunk_len]
    exact ⟨trivial, (p.of_eq m2).then_mem rfl, rfl⟩
  · rw [if_neg (by rw [m2, hv.1]; exact h), if_neg h]
    exact ⟨nofun, Post.same hv (by simp [St.withMem, m2]), rfl⟩

theorem iSplitOff_refines {s : St} {L : List Nat} (at_ : Nat) (hv : LocalVec s.v L)
    (hb : s.mem.budget = none) :
    RefIV s (liftB (iSplitOff at_ s)) ((⟨s.v.cap, L⟩ : IV Nat).splitOff at_) := by
  unfold iSplitOff IV.splitOff liftB
  rw [hv.1]
  have hle := hv.len_le
  split
  · rename_i h
    dsimp only
    rw [St.chk_true _ (by simp only [iNew_cap, decide_eq_true_eq]; omega), St.onMem_fst,
      (Mem.dropLoop_of_none _ _ (show (s.setLen at_).mem.budget = none from hb)).1]
    exact ⟨trivial, (St.setLen_post hv h).then_mem rfl, rfl⟩
  · exact ⟨nofun, Post.same hv rfl, rfl⟩

theorem drainOp_refines {s loc locB} {L : List Nat} (a b : Nat) (sc : List IStep) (f : IFin)
    (h : OwnL fl s loc locB) (hv : LocalVec s.v L) (hb : s.mem.budget = none) :
    RefIV s (liftB (drainOp a b sc f s))
      ((⟨s.v.cap, L⟩ : IV Nat).drain (.incl a) (.excl b) (sc.flatMap sidesOf) (finOf f)) := by
  obtain ⟨r, p⟩ := (drainOp_res a b sc f h hv).2 hb
  unfold liftB boolRet IV.drain
  rw [r]
  by_cases h1 : a ≤ b ∧ b ≤ L.length
  · rw [rangeMono_valid h1]
    rw [if_pos h1] at p
    cases f <;> exact ⟨by simp [h1, finOf, retMatch], by simpa [finOf] using p, rfl⟩
  · obtain ⟨e, he⟩ := rangeMono_invalid (len := L.length) h1
    rw [he]
    rw [if_neg h1] at p
    exact ⟨by simp [h1, retMatch], p, rfl⟩

theorem iRoundtrip_refines {s : St} {L : List Nat} (hv : LocalVec s.v L) :
    RefIV s (liftB (iRoundtrip s)) ((⟨s.v.cap, L⟩ : IV Nat).from_ .other 0 L) := by
  obtain ⟨r, p, -⟩ := iRoundtrip_spec hv
  unfold liftB IV.from_ IV.new
  rw [r]
  simp only [hv.len_le, if_true]
  exact ⟨trivial, p, rfl⟩

theorem RefIV.finish {s : St} {r : Ret × St} {q : Outcome Nat × IV Nat} (h : RefIV s r q)
    (hth : s.v.h.thin = false) (hal : s.v.h.alive = true) :
    retMatch r.1 q.1 ∧ ∃ L', LocalVec r.2.v L' ∧ r.2.v.cap = s.v.cap ∧ r.2.v.h.thin = false ∧
      r.2.v.h.alive = true ∧ q.2 = ⟨s.v.cap, L'⟩ := by
  obtain ⟨o, c, xs⟩ := q
  exact ⟨h.ret, xs, h.post.view, h.post.cap, by rw [h.post.hdr]; exact hth,
    by rw [h.post.hdr]; exact hal, by rw [← h.cap]⟩

theorem iStep_refines {s loc locB} {L : List Nat} (op : Op) (vop : Vecs.Op Nat)
    (h : OwnL fl s loc locB) (hv : LocalVec s.v L) (hb : s.mem.budget = none)
    (hth : s.v.h.thin = false) (hal : s.v.h.alive = true)
    (hmap : toIVOp s op = some vop) :
    retMatch (iStep op s).1 ((⟨s.v.cap, L⟩ : IV Nat).step vop).1 ∧
    ∃ L', LocalVec (iStep op s).2.v L' ∧ (iStep op s).2.v.cap = s.v.cap ∧
      (iStep op s).2.v.h.thin = false ∧ (iStep op s).2.v.h.alive = true ∧
      ((⟨s.v.cap, L⟩ : IV Nat).step vop).2 = ⟨s.v.cap, L'⟩ := by
  have hout := h.view_notout hv
  cases op <;> simp only [toIVOp, Option.some.injEq, reduceCtorEq] at hmap
  case extWithin a b =>
    refine RefIV.finish ?_ hth hal
    have := iExtWithin_refines a b hv hb hout
    rw [hv.1] at hmap
    split at hmap
    · rename_i h1
      cases hmap
      rwa [if_pos h1] at this
    · rename_i h1
      cases hmap
      rwa [if_neg h1] at this
  case intoIter sc f =>
    -- the variable ends as a fresh vector: its header is the default one, not the old one
    subst hmap
    obtain ⟨r, p⟩ := (iIntoIter_res sc f h).2 hb
    simp only [iStep, liftB, IV.step, IV.intoIter, IV.new]
    rw [r, p]
    exact ⟨trivial, [], LocalVec.of_iNew _, iNew_cap _, rfl, rfl, rfl⟩
  all_goals subst hmap; refine RefIV.finish ?_ hth hal
  case push => exact iPush_refines hv
  case tryPush => exact iTryPush_refines hv
  case pop => exact iPop_refines hv
  case popIf b => exact iPopIf_refines b hv hb
  case insert i => exact iInsert_refines i hv
  case tryInsert i => exact iTryInsert_refines i hv
  case remove i => exact iRemove_refines i hv
  case swapRemove i => exact iSwapRemove_refines i hv
  case truncate n => exact iTruncate_refines n hv hb
  case clear => exact iTruncate_refines 0 hv hb
  case resize n => exact iResize_refines n hv hb
  case resizeWith n => exact iResizeWith_refines n hv hb
  case extSlice n => exact iExtSlice_refines n hv hb
  case extIter hint n => exact iExtend_refines n hv hb
  case clone => exact iClone_refines hv hb hout
  case append n => exact iAppend_refines n hv
  case splitOff a => exact iSplitOff_refines a hv hb
  case drain a b sc f => exact drainOp_refines a b sc f h hv hb
  case roundtrip => rw [absL_of_view hv]; exact iRoundtrip_refines hv

end HipVerif.Slots
