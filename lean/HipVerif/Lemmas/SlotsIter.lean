/-
`Drain` / `IntoIter` as iterator states: the ownership invariant along every pull (`next`,
`next_back`, `nth`, `nth_back`) and every consuming provided method (`last`, `count`, `fold`,
`rfold` — std's default loops over `next`/`next_back`), for every fault position; and that
without an armed fault none of them panics.  `drainOp` and `iIntoIter`: ownership, and the
contents they leave on a fault-free run.
-/
import HipVerif.Lemmas.SlotsShift
namespace HipVerif.Slots

variable {fl : Bool}

/-- The iterator `c` over the slot array of `s` (whose vector has been given the length `n` for
the time of the iteration): the cursor range `[lo, hi)` holds ids `M`, owned by the iterator next
to `loc`. -/
def CurOwn (fl : Bool) (n : Nat) (c : Cur) (s : St) (loc locB : List Nat) : Prop :=
  ∃ A M C, s.v.slots = A ++ M.map .init ++ C ∧ c.lo = A.length ∧ c.hi = A.length + M.length ∧
    OwnL fl (s.setLen n) (M ++ loc) locB

/-- what a pull / a consuming method returns: the vector untouched, the cursor still owning its
range, and — if no fault was armed — no panic and still no fault armed -/
def CurRes (fl : Bool) (n : Nat) (s : St) (loc locB : List Nat) (r : Bool × Cur × St) : Prop :=
  r.2.2.v = s.v ∧ CurOwn fl n r.2.1 r.2.2 loc locB ∧
    (s.mem.budget = none → r.1 = false ∧ r.2.2.mem.budget = none)

theorem CurOwn.budget_none {n c s loc locB} (h : CurOwn fl n c s loc locB) (hf : fl = true) :
    s.mem.budget = none := by
  obtain ⟨_, _, _, _, _, _, h⟩ := h
  exact h.budget_none hf

theorem CurRes.ret {n c s loc locB} (h : CurOwn fl n c s loc locB) :
    CurRes fl n s loc locB (false, c, s) :=
  ⟨rfl, h, fun hb => ⟨rfl, hb⟩⟩

theorem CurRes.panic {n c s s' loc locB} (hv : s'.v = s.v) (h : CurOwn fl n c s' loc locB)
    (hq : s.mem.budget = none → False) : CurRes fl n s loc locB (true, c, s') :=
  ⟨hv, h, fun hb => (hq hb).elim⟩

theorem CurRes.andThen {n s loc locB} {r1 r2 : Bool × Cur × St} (h1 : CurRes fl n s loc locB r1)
    (h2 : CurOwn fl n r1.2.1 r1.2.2 loc locB → CurRes fl n r1.2.2 loc locB r2) :
    CurRes fl n s loc locB r2 := by
  obtain ⟨hv, ho, hq⟩ := h1
  obtain ⟨hv2, ho2, hq2⟩ := h2 ho
  exact ⟨hv2.trans hv, ho2, fun hb => hq2 (hq hb).2⟩

theorem CurRes.after {n s s' loc locB} {r : Bool × Cur × St} (h : CurRes fl n s' loc locB r)
    (hv : s'.v = s.v) (hb : s.mem.budget = none → s'.mem.budget = none) :
    CurRes fl n s loc locB r :=
  ⟨h.1.trans hv, h.2.1, fun hq => h.2.2 (hb hq)⟩

theorem CurRes.guard {n s loc locB} {r1 : Bool × Cur × St} {f : Cur → St → Bool × Cur × St}
    (h1 : CurRes fl n s loc locB r1)
    (h2 : ∀ c' s', CurOwn fl n c' s' loc locB → CurRes fl n s' loc locB (f c' s')) :
    CurRes fl n s loc locB (if r1.1 = true then (true, r1.2.1, r1.2.2) else f r1.2.1 r1.2.2) := by
  by_cases hp : r1.1 = true
  · rw [if_pos hp]
    exact .panic h1.1 h1.2.1 (fun hb => by rw [(h1.2.2 hb).1] at hp; cases hp)
  · rw [if_neg hp]; exact h1.andThen (h2 _ _)

theorem CurOwn.step {n c s s' loc loc' locB} (h : CurOwn fl n c s loc locB) (hv : s'.v = s.v)
    (hs : ∀ M, OwnL fl (s.setLen n) (M ++ loc) locB → OwnL fl (s'.setLen n) (M ++ loc') locB) :
    CurOwn fl n c s' loc' locB := by
  obtain ⟨A, M, C, e1, e2, e3, e4⟩ := h
  exact ⟨A, M, C, by rw [hv]; exact e1, e2, e3, hs M e4⟩

theorem CurOwn.dropId {n c s a loc locB} (h : CurOwn fl n c s (a :: loc) locB) :
    CurOwn fl n c (s.onMem (Mem.dropId a)).2 loc locB :=
  h.step rfl (fun M hx => OwnL.dropId (s := s.setLen n) (hx.perm (by perm_tac)))

theorem CurOwn.retId {n c s a loc locB} (h : CurOwn fl n c s (a :: loc) locB) :
    CurOwn fl n c (s.withMem (Mem.retId a)) loc locB :=
  h.step rfl (fun M hx => OwnL.retId (s := s.setLen n) (hx.perm (by perm_tac)))

theorem CurOwn.tick {n c s loc locB} (h : CurOwn fl n c s loc locB) :
    CurOwn fl n c (s.onMem Mem.tick).2 loc locB :=
  h.step rfl (fun _ hx => OwnL.tick (s := s.setLen n) hx)

theorem CurOwn.leak1 {n c s a loc locB} (h : CurOwn fl n c s (a :: loc) locB)
    (hnf : fl = true → False) : CurOwn fl n c s loc locB :=
  h.step rfl (fun M hx => OwnL.leak (loc' := [a]) (hx.perm (by perm_tac)) hnf)

theorem CurOwn.permLoc {n c s loc loc' locB} (h : CurOwn fl n c s loc locB)
    (hp : loc'.Perm loc) : CurOwn fl n c s loc' locB :=
  h.step rfl (fun M hx => hx.perm (List.Perm.append_left M hp))

theorem CurOwn.front {n c s loc locB} (h : CurOwn fl n c s loc locB) (hlt : c.lo < c.hi) :
    ∃ a, s.v.get c.lo = .init a ∧ CurOwn fl n { c with lo := c.lo + 1 } s (a :: loc) locB := by
  obtain ⟨A, M, C, e1, e2, e3, e4⟩ := h
  cases M with
  | nil => simp at e3; omega
  | cons a M =>
    refine ⟨a, Vec.get_mid (A := A) (C := M.map .init ++ C) (by simp [e1]) e2,
      A ++ [.init a], M, C, by simp [e1], by simp [e2], by simp at e3 ⊢; omega, ?_⟩
    exact e4.perm (by perm_tac)

theorem CurOwn.back {n c s loc locB} (h : CurOwn fl n c s loc locB) (hlt : c.lo < c.hi) :
    ∃ a, s.v.get (c.hi - 1) = .init a ∧
      CurOwn fl n { c with hi := c.hi - 1 } s (a :: loc) locB := by
  obtain ⟨A, M, C, e1, e2, e3, e4⟩ := h
  rcases eq_nil_or_snoc M with rfl | ⟨M0, z, rfl⟩
  · simp at e3; omega
  · refine ⟨z, Vec.get_mid (A := A ++ M0.map .init) (C := C) (by simp [e1])
        (by simp at e3 ⊢; omega),
      A, M0, .init z :: C, by simp [e1], e2, by simp at e3 ⊢; omega, ?_⟩
    exact e4.perm (by perm_tac)

theorem CurOwn.range {n c s loc locB} (h : CurOwn fl n c s loc locB) :
    ∃ M, s.v.range c.lo c.hi = M.map .init ∧ OwnL fl (s.setLen n) (M ++ loc) locB := by
  obtain ⟨A, M, C, e1, e2, e3, e4⟩ := h
  exact ⟨M, Vec.range_mid e1 e2 (by simpa using e3), e4⟩

theorem CurOwn.dropped {n c s a loc locB} (h : CurOwn fl n c s (a :: loc) locB) :
    CurRes fl n s loc locB ((s.onMem (Mem.dropId a)).1, c, (s.onMem (Mem.dropId a)).2) :=
  ⟨rfl, h.dropId, fun hb => ⟨Mem.dropId_of_none hb, Mem.dropId_budget_of_none hb⟩⟩

theorem CurOwn.returned {n c s a loc locB} (h : CurOwn fl n c s (a :: loc) locB) :
    CurRes fl n s loc locB (false, c, s.withMem (Mem.retId a)) :=
  ⟨rfl, h.retId, fun hb => ⟨rfl, (Mem.retId_budget a s.mem).trans hb⟩⟩

theorem frontStep_own {n c s loc locB} (h : CurOwn fl n c s loc locB) :
    CurRes fl n s loc locB (false, frontStep c s) := by
  unfold frontStep
  split
  · rename_i hlt
    obtain ⟨a, hg, h1⟩ := h.front hlt
    rw [hg, St.onMem_readMove_init]
    exact h1.returned
  · exact .ret h

theorem backStep_own {n c s loc locB} (h : CurOwn fl n c s loc locB) :
    CurRes fl n s loc locB (false, backStep c s) := by
  unfold backStep
  split
  · rename_i hlt
    obtain ⟨a, hg, h1⟩ := h.back hlt
    rw [hg, St.onMem_readMove_init]
    exact h1.returned
  · exact .ret h

theorem skipFront_own {n loc locB} : ∀ (k : Nat) (c : Cur) (s : St), CurOwn fl n c s loc locB →
    CurRes fl n s loc locB (skipFront k c s)
  | 0, _, _, h => .ret h
  | k + 1, c, s, h => by
    unfold skipFront
    split
    · rename_i hlt
      obtain ⟨a, hg, h1⟩ := h.front hlt
      rw [hg, St.onMem_readMove_init]
      exact h1.dropped.guard (skipFront_own k)
    · exact .ret h

theorem skipBack_own {n loc locB} : ∀ (k : Nat) (c : Cur) (s : St), CurOwn fl n c s loc locB →
    CurRes fl n s loc locB (skipBack k c s)
  | 0, _, _, h => .ret h
  | k + 1, c, s, h => by
    unfold skipBack
    split
    · rename_i hlt
      obtain ⟨a, hg, h1⟩ := h.back hlt
      rw [hg, St.onMem_readMove_init]
      exact h1.dropped.guard (skipBack_own k)
    · exact .ret h

/-- `count()` runs the loop of `advance_by` -/
theorem countFront_eq : ∀ (k : Nat) (c : Cur) (s : St), countFront k c s = skipFront k c s
  | 0, _, _ => rfl
  | k + 1, c, s => by simp only [countFront, skipFront, countFront_eq k]

theorem iterSteps_own {n loc locB} : ∀ (script : List IStep) (c : Cur) (s : St),
    CurOwn fl n c s loc locB → CurRes fl n s loc locB (iterSteps script c s)
  | [], _, _, h => .ret h
  | .front :: r, c, s, h => (frontStep_own h).andThen (iterSteps_own r _ _)
  | .back :: r, c, s, h => (backStep_own h).andThen (iterSteps_own r _ _)
  | .nth k :: r, c, s, h => by
    unfold iterSteps
    have h1 := skipFront_own k c s h
    generalize skipFront k c s = q at h1
    obtain ⟨p, c1, s1⟩ := q
    cases p
    · exact h1.andThen (fun h2 => (frontStep_own h2).andThen (iterSteps_own r _ _))
    · exact h1
  | .nthBack k :: r, c, s, h => by
    unfold iterSteps
    have h1 := skipBack_own k c s h
    generalize skipBack k c s = q at h1
    obtain ⟨p, c1, s1⟩ := q
    cases p
    · exact h1.andThen (fun h2 => (backStep_own h2).andThen (iterSteps_own r _ _))
    · exact h1

/-- the user closure of `fold` on a pulled item: it keeps the item (handed out) or panics, and then
the item — already moved out — is dropped by the unwinding, once -/
theorem CurOwn.folded {n c s a loc locB} {f : Cur → St → Bool × Cur × St}
    (h : CurOwn fl n c s (a :: loc) locB)
    (h2 : ∀ c' s', CurOwn fl n c' s' loc locB → CurRes fl n s' loc locB (f c' s')) :
    CurRes fl n s loc locB
      (if (s.onMem Mem.tick).1 = true then
        (true, c, ((s.onMem Mem.tick).2.onMem (Mem.dropId a)).2)
       else f c ((s.onMem Mem.tick).2.withMem (Mem.retId a))) := by
  split
  · rename_i hp
    exact .panic rfl h.tick.dropId
      (fun hb => by rw [St.onMem_fst, (Mem.tick_of_none hb).1] at hp; cases hp)
  · exact (h2 _ _ h.tick.retId).after rfl
      (fun hb => (Mem.retId_budget a _).trans (Mem.tick_of_none hb).2)

theorem foldFront_own {n loc locB} : ∀ (k : Nat) (c : Cur) (s : St), CurOwn fl n c s loc locB →
    CurRes fl n s loc locB (foldFront k c s)
  | 0, _, _, h => .ret h
  | k + 1, c, s, h => by
    unfold foldFront
    split
    · rename_i hlt
      obtain ⟨a, hg, h1⟩ := h.front hlt
      rw [hg, St.onMem_readMove_init]
      exact h1.folded (foldFront_own k)
    · exact .ret h

theorem foldBack_own {n loc locB} : ∀ (k : Nat) (c : Cur) (s : St), CurOwn fl n c s loc locB →
    CurRes fl n s loc locB (foldBack k c s)
  | 0, _, _, h => .ret h
  | k + 1, c, s, h => by
    unfold foldBack
    split
    · rename_i hlt
      obtain ⟨a, hg, h1⟩ := h.back hlt
      rw [hg, St.onMem_readMove_init]
      exact h1.folded (foldBack_own k)
    · exact .ret h

/-- `last()`: the accumulator is owned next to the range; a panicking drop of the previous
accumulator leaks the new one (never under the no-leak flag: nothing panics there) -/
theorem lastFront_own {n loc locB} : ∀ (k : Nat) (prev : Option Nat) (c : Cur) (s : St),
    CurOwn fl n c s (prev.toList ++ loc) locB →
    (lastFront k prev c s).2.2.2.v = s.v ∧
      CurOwn fl n (lastFront k prev c s).2.2.1 (lastFront k prev c s).2.2.2
        ((lastFront k prev c s).2.1.toList ++ loc) locB ∧
      (s.mem.budget = none →
        (lastFront k prev c s).1 = false ∧ (lastFront k prev c s).2.2.2.mem.budget = none)
  | 0, _, _, _, h => ⟨rfl, h, fun hb => ⟨rfl, hb⟩⟩
  | k + 1, prev, c, s, h => by
    unfold lastFront
    split
    · rename_i hlt
      obtain ⟨a, hg, h1⟩ := h.front hlt
      rw [hg, St.onMem_readMove_init]
      dsimp only
      cases prev with
      | none => exact lastFront_own k (some a) _ s (by simpa using h1)
      | some y =>
        simp only
        have h2 : CurOwn fl n { c with lo := c.lo + 1 } (s.onMem (Mem.dropId y)).2 (a :: loc) locB :=
          (h1.permLoc (by simp only [Option.toList]; perm_tac)).dropId
        split
        · rename_i hp
          have hq : s.mem.budget = none → False := fun hb => by
            rw [St.onMem_fst, Mem.dropId_of_none hb] at hp; cases hp
          exact ⟨rfl, by simpa using h2.leak1 (fun hf => hq (h.budget_none hf)),
            fun hb => (hq hb).elim⟩
        · obtain ⟨q1, q2, q3⟩ := lastFront_own k (some a) _ _ (by simpa using h2)
          exact ⟨q1, q2, fun hb => q3 (Mem.dropId_budget_of_none hb)⟩
    · exact ⟨rfl, h, fun hb => ⟨rfl, hb⟩⟩

theorem consume_own {n loc locB} (fin : IFin) {c : Cur} {s : St} (h : CurOwn fl n c s loc locB) :
    CurRes fl n s loc locB (consume fin c s) := by
  cases fin with
  | drop => exact .ret h
  | leak => exact .ret h
  | fold => exact foldFront_own _ c s h
  | rfold => exact foldBack_own _ c s h
  | count => simp only [consume, countFront_eq]; exact skipFront_own _ c s h
  | last =>
    simp only [consume]
    obtain ⟨q1, q2, q3⟩ := lastFront_own (c.hi - c.lo) none c s (by simpa using h)
    generalize lastFront (c.hi - c.lo) none c s = r at q1 q2 q3 ⊢
    obtain ⟨p, acc, c1, s1⟩ := r
    simp only at q1 q2 q3 ⊢
    cases p with
    | true =>
      have hnf : fl = true → False := fun hf => by cases (q3 (h.budget_none hf)).1
      cases acc with
      | none => exact ⟨q1, by simpa using q2, q3⟩
      | some a => exact ⟨q1, (show CurOwn fl n c1 s1 (a :: loc) locB by simpa using q2).leak1 hnf, q3⟩
    | false =>
      cases acc with
      | none => exact ⟨q1, by simpa using q2, q3⟩
      | some a =>
        exact ⟨q1, (show CurOwn fl n c1 s1 (a :: loc) locB by simpa using q2).retId,
          fun hb => ⟨rfl, (Mem.retId_budget a _).trans (q3 hb).2⟩⟩

theorem CurOwn.drain {s loc locB} {L : List Nat} (h : OwnL fl s loc locB) (hv : LocalVec s.v L)
    {a b : Nat} (hab : a ≤ b) (hb : b ≤ L.length) :
    CurOwn fl a { lo := a, hi := b } (s.setLen a) (L.drop b ++ loc) locB := by
  have e : L = L.take a ++ ((L.drop a).take (b - a) ++ L.drop b) := split3 hab
  obtain ⟨e1, rest, e2⟩ := hv
  refine ⟨(L.take a).map .init, (L.drop a).take (b - a), (L.drop b).map .init ++ rest, ?_,
    by simp; omega, by simp; omega, ?_⟩
  · rw [St.setLen_slots, e2]
    conv => lhs; rw [e]
    simp
  · have ha := h.acct ⟨e1, rest, e2⟩
    rw [e] at ha
    exact h.of_post (St.setLen_post ⟨e1, rest, e2⟩ (by omega)) (ha.perm (by perm_tac))

/-- `Drain::drop` from any cursor state reached on the way: the unread ids are dropped (all of
them, whatever panics), then the tail (owned by the drain) is moved back behind the kept prefix;
after a panic the tail leaks. Without an armed fault nothing panics. -/
theorem drainDrop_own {s s1 : St} {loc locB L : List Nat} {c : Cur} {a b : Nat}
    (hv : LocalVec s.v L) (hab : a ≤ b) (hb : b ≤ L.length) (hv1 : s1.v = (s.setLen a).v)
    (hc : CurOwn fl a c s1 (L.drop b ++ loc) locB) :
    OwnL fl (drainDrop c b (L.length - b) s1).2 loc locB ∧
      (s1.mem.budget = none → (drainDrop c b (L.length - b) s1).1 = false ∧
        Post s (drainDrop c b (L.length - b) s1).2 (L.take a ++ L.drop b)) := by
  have hle := hv.len_le
  obtain ⟨M', hr, ho⟩ := hc.range
  have hlen1 : s1.v.len = a := by rw [hv1]; rfl
  rw [St.setLen_self hlen1] at ho
  unfold drainDrop
  rw [hr]
  have h1 : OwnL fl (s1.onMem (Mem.dropSlice (M'.map .init))).2 (L.drop b ++ loc) locB :=
    ho.dropSlice
  have hq : s1.mem.budget = none → (s1.onMem (Mem.dropSlice (M'.map .init))).1 = false :=
    fun hb => (Mem.dropSlice_of_none _ _ hb).1
  have hv2 : (s1.onMem (Mem.dropSlice (M'.map .init))).2.v = (s.setLen a).v := hv1
  generalize s1.onMem (Mem.dropSlice (M'.map .init)) = r2 at h1 hq hv2 ⊢
  obtain ⟨p, s2⟩ := r2
  simp only at h1 hq hv2 ⊢
  cases p
  · simp only [Bool.false_eq_true, if_false]
    have hchunk : s2.v.range b (b + (L.length - b)) = (L.drop b).map .init := by
      rw [hv2, show b + (L.length - b) = L.length by omega]; exact hv.range_drop hb
    have hlen2 : s2.v.len = a := by rw [hv2]; rfl
    rw [hlen2, St.copyWithin_eq hchunk (by rw [hv2]; simp; omega)]
    obtain ⟨c1, c2⟩ := hv.writeChunk (T := L.drop b) a (by omega) (by simp; omega)
    rw [show a + (L.drop b).length = a + (L.length - b) by simp] at c1 c2
    have hp : Post s (({ s2 with v := s2.v.writeChunk a ((L.drop b).map .init) } : St).setLen
        (a + (L.length - b))) (L.take a ++ L.drop b) := by
      simp only [St.setLen, hv2]; exact ⟨c1, c2, rfl⟩
    refine ⟨?_, fun _ => ⟨trivial, hp⟩⟩
    have ha := h1.acct (L := L.take a) (by rw [hv2]; exact hv.setLen_take a (by omega))
    exact h1.of_post (hp.trans (s := s2) (by rw [hv2]; rfl) (by rw [hv2]; rfl))
      (by rw [hv2] at ha ⊢; exact ha.perm (by perm_tac))
  · have hnb : s1.mem.budget = none → False := fun hb => by cases hq hb
    exact ⟨h1.leak (fun hf => hnb (ho.budget_none hf)), fun hb => (hnb hb).elim⟩

-- `consume` and `drainDrop` are used through their lemmas only; unfolding them while matching the
-- cases of `fin` against `hcons` is what would make this proof slow
attribute [local irreducible] consume drainDrop in
theorem drainOp_res {s loc locB} {L : List Nat} (a b : Nat) (script : List IStep) (fin : IFin)
    (h : OwnL fl s loc locB) (hv : LocalVec s.v L) :
    ((fl = true → fin ≠ .leak) → OwnL fl (drainOp a b script fin s).2 loc locB) ∧
    (s.mem.budget = none →
      (drainOp a b script fin s).1 = decide (¬ (a ≤ b ∧ b ≤ L.length)) ∧
      Post s (drainOp a b script fin s).2 (if a ≤ b ∧ b ≤ L.length then
        (if fin = .leak then L.take a else L.take a ++ L.drop b) else L)) := by
  unfold drainOp
  rw [hv.1]
  by_cases hab : a ≤ b ∧ b ≤ L.length
  · rw [if_pos hab, if_pos hab]
    have key := fun c s1 => drainDrop_own (fl := fl) (loc := loc) (locB := locB) (c := c) (s1 := s1)
      hv hab.1 hab.2
    obtain ⟨f1, f2, f3⟩ := iterSteps_own script _ _ (CurOwn.drain h hv hab.1 hab.2)
    dsimp only
    generalize iterSteps script { lo := a, hi := b } (s.setLen a) = r at f1 f2 f3 ⊢
    obtain ⟨p, c, s1⟩ := r
    simp only at f1 f2 f3 ⊢
    cases p
    · simp only [Bool.false_eq_true, if_false]
      have hcons : ∀ fin : IFin,
          OwnL fl (drainDrop (consume fin c s1).2.1 b (L.length - b) (consume fin c s1).2.2).2
            loc locB ∧
          (s.mem.budget = none →
            ((consume fin c s1).1 || (drainDrop (consume fin c s1).2.1 b (L.length - b)
              (consume fin c s1).2.2).1) = false ∧
            Post s (drainDrop (consume fin c s1).2.1 b (L.length - b) (consume fin c s1).2.2).2
              (L.take a ++ L.drop b)) := fun fin => by
        obtain ⟨k1, k2, k3⟩ := consume_own (n := a) fin f2
        obtain ⟨r1, r2⟩ := key _ _ (k1.trans f1) k2
        exact ⟨r1, fun hb => by
          obtain ⟨g1, g2⟩ := k3 (f3 hb).2
          exact ⟨by rw [g1, (r2 g2).1]; rfl, (r2 g2).2⟩⟩
      cases fin
      case leak =>
        refine ⟨fun hfin => ?_, fun _ => ⟨by simp [hab], ?_⟩⟩
        · have hnf : fl = true → False := fun hf => hfin hf rfl
          obtain ⟨M', -, ho⟩ := f2.range
          rw [St.setLen_self (by rw [f1]; rfl)] at ho
          exact (ho.leak hnf).leak hnf
        · rw [if_pos rfl]
          exact (St.setLen_post hv (by omega)).then_mem f1
      all_goals
        obtain ⟨r1, r2⟩ := hcons _
        exact ⟨fun _ => r1, fun hb => ⟨by simpa [hab] using (r2 hb).1,
          by rw [if_neg (by simp)]; exact (r2 hb).2⟩⟩
    · simp only [if_true]
      exact ⟨fun _ => (key c s1 f1 f2).1, fun hb => by cases (f3 hb).1⟩
  · rw [if_neg hab, if_neg hab]
    exact ⟨fun _ => h, fun _ => ⟨by simp [hab], Post.same hv rfl⟩⟩

theorem drainOp_own {s loc locB} (a b : Nat) (script : List IStep) (fin : IFin)
    (h : OwnL fl s loc locB) (hfin : fl = true → fin ≠ .leak) :
    OwnL fl (drainOp a b script fin s).2 loc locB := by
  obtain ⟨L, hv, -⟩ := h.elim
  exact (drainOp_res a b script fin h hv).1 hfin

/-- `IntoIter::drop`: whatever is left in the cursor range is dropped — by a `for` loop (`d =
dropLoop`) or, after a panic, by the unwinding (`d = dropSlice`) — then the variable is a fresh
`InlineVec::new()` -/
theorem intoIterDrop_own {s s1 : St} {loc locB : List Nat} {c : Cur}
    {d : List Slot → Mem → Bool × Mem}
    (hd : ∀ {s' : St} {as l}, OwnL fl s' (as ++ l) locB → OwnL fl (s'.onMem (d (as.map .init))).2 l locB)
    (hv1 : s1.v = s.v) (hth : fl = true → s.v.h.thin = false) (hc : CurOwn fl 0 c s1 loc locB) :
    OwnL fl { (s1.onMem (d (s1.v.range c.lo c.hi))).2 with v := iNew s1.v.cap } loc locB := by
  obtain ⟨M', hr, ho⟩ := hc.range
  rw [hr]
  exact (hd ho).renew s1.v.cap (fun hf => ⟨rfl, prefL_of_not_thin (by simpa [hv1] using hth hf)⟩)

theorem iIntoIter_res {s loc locB} (script : List IStep) (fin : IFin) (h : OwnL fl s loc locB) :
    ((fl = true → fin ≠ .leak) → (fl = true → s.v.h.thin = false) →
      OwnL fl (iIntoIter script fin s).2 loc locB) ∧
    (s.mem.budget = none →
      (iIntoIter script fin s).1 = false ∧ (iIntoIter script fin s).2.v = iNew s.v.cap) := by
  unfold iIntoIter
  obtain ⟨L, e1, e2⟩ := h.take_all
  have hc0 : CurOwn fl 0 { lo := 0, hi := s.v.len } s loc locB := by
    obtain ⟨L0, hv, -⟩ := h.elim
    rw [hv.range] at e1
    rw [← map_init_inj e1] at e2
    obtain ⟨g1, rest, g2⟩ := hv
    exact ⟨[], L0, rest, by simp [g2], rfl, by simp [g1], e2⟩
  obtain ⟨f1, f2, f3⟩ := iterSteps_own script { lo := 0, hi := s.v.len } s hc0
  dsimp only
  generalize iterSteps script { lo := 0, hi := s.v.len } s = r at f1 f2 f3 ⊢
  obtain ⟨p, c, s1⟩ := r
  simp only at f1 f2 f3 ⊢
  cases p
  · simp only [Bool.false_eq_true, if_false]
    cases fin
    case leak =>
      refine ⟨fun hfin hth => ?_, fun _ => ⟨rfl, by rw [f1]⟩⟩
      have hnf : fl = true → False := fun hf => hfin hf rfl
      obtain ⟨M', -, ho⟩ := f2.range
      exact (ho.leak hnf).renew s1.v.cap
        (fun hf => ⟨rfl, prefL_of_not_thin (by simpa [f1] using hth hf)⟩)
    all_goals
      dsimp only
      obtain ⟨k1, k2, k3⟩ := consume_own (n := 0) _ f2
      generalize consume _ c s1 = q at k1 k2 k3 ⊢
      obtain ⟨p2, c2, s2⟩ := q
      simp only at k1 k2 k3 ⊢
      cases p2
      · simp only [Bool.false_eq_true, if_false]
        exact ⟨fun _ hth => intoIterDrop_own OwnL.dropLoop (k1.trans f1) hth k2, fun hb =>
          ⟨(Mem.dropLoop_of_none _ _ (k3 (f3 hb).2).2).1, by rw [St.onMem_v, k1, f1]⟩⟩
      · simp only [if_true]
        exact ⟨fun _ hth => intoIterDrop_own OwnL.dropSlice (k1.trans f1) hth k2, fun hb => by
          cases (k3 (f3 hb).2).1⟩
  · simp only [if_true]
    exact ⟨fun _ hth => intoIterDrop_own OwnL.dropSlice f1 hth f2, fun hb => by cases (f3 hb).1⟩

theorem iIntoIter_own {s loc locB} (script : List IStep) (fin : IFin) (h : OwnL fl s loc locB)
    (hfin : fl = true → fin ≠ .leak) (hth : fl = true → s.v.h.thin = false) :
    OwnL fl (iIntoIter script fin s).2 loc locB :=
  (iIntoIter_res script fin h).1 hfin hth

end HipVerif.Slots
