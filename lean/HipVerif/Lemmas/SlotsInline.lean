/-
Ownership-invariant preservation for the InlineVec operations of the L0 model (part 1: the
operations without slot shifting), and the one loop behind `resize_with`, `resize`,
`extend_from_slice`, `extend_from_within`: a callback produces a value, the value is stored at
`len` (`storeLoop`), with its ownership and its fault-free result proved once.
-/
import HipVerif.Lemmas.Slots
namespace HipVerif.Slots

variable {fl : Bool}

def storeLoop : List (Option Nat) → St → Bool × St
  | [], s => (false, s)
  | src :: r, s =>
    match s.onMem (Mem.produce src) with
    | (none, s) => (true, s)
    | (some a, s) => storeLoop r (s.store a)

theorem iFillGen_eq : ∀ (k : Nat) (s : St), iFillGen k s = storeLoop (List.replicate k none) s
  | 0, _ => rfl
  | k + 1, s => by simp only [iFillGen, List.replicate_succ, storeLoop, iFillGen_eq k]; rfl

theorem iFillClone_eq (x : Nat) : ∀ (k : Nat) (s : St),
    iFillClone x k s = storeLoop (List.replicate k (some x)) s
  | 0, _ => rfl
  | k + 1, s => by simp only [iFillClone, List.replicate_succ, storeLoop, iFillClone_eq x k]; rfl

theorem tFillClone_eq (x : Nat) : ∀ (k : Nat) (s : St),
    tFillClone x k s = storeLoop (List.replicate k (some x)) s
  | 0, _ => rfl
  | k + 1, s => by simp only [tFillClone, List.replicate_succ, storeLoop, tFillClone_eq x k]; rfl

theorem iCloneIds_eq : ∀ (srcs : List Nat) (s : St), iCloneIds srcs s = storeLoop (srcs.map some) s
  | [], _ => rfl
  | a :: as, s => by simp only [iCloneIds, List.map_cons, storeLoop, iCloneIds_eq as]; rfl

theorem St.store_out (a : Nat) (s : St) : (s.store a).mem.out = s.mem.out := by
  simp only [St.store, St.wr, St.setLen_mem]; split <;> rfl

theorem iCloneSlots_eq : ∀ (M : List Nat) (s : St), (∀ a ∈ M, a ∉ s.mem.out) →
    iCloneSlots (M.map .init) s = storeLoop (M.map some) s
  | [], _, _ => rfl
  | a :: as, s, hm => by
    simp only [List.map_cons, iCloneSlots, storeLoop, St.onMem_eq,
      Mem.cloneSlot_init (hm a (List.mem_cons_self ..))]
    have hout := Mem.produce_out (some a) s.mem
    generalize s.mem.produce (some a) = r at hout ⊢
    obtain ⟨_ | b, m'⟩ := r
    · rfl
    · exact iCloneSlots_eq as _ (fun c hc => by
        rw [St.store_out]; simp only at hout ⊢; rw [hout]; exact hm c (List.mem_cons_of_mem _ hc))

theorem storeLoop_own {loc locB} : ∀ (srcs : List (Option Nat)) (s : St), OwnL fl s loc locB →
    s.v.len + srcs.length ≤ s.v.cap →
    OwnL fl (storeLoop srcs s).2 loc locB ∧ s.v.len ≤ (storeLoop srcs s).2.v.len ∧
      (storeLoop srcs s).2.v.len ≤ s.v.len + srcs.length ∧
      ((storeLoop srcs s).1 = false → (storeLoop srcs s).2.v.len = s.v.len + srcs.length) ∧
      (storeLoop srcs s).2.v.cap = s.v.cap ∧ (storeLoop srcs s).2.v.h = s.v.h
  | [], _, h, _ => ⟨h, Nat.le_refl _, Nat.le_refl _, fun _ => rfl, rfl, rfl⟩
  | src :: r, s, h, hc => by
    unfold storeLoop
    have h1 := h.produce src
    rcases hr : s.onMem (Mem.produce src) with ⟨_ | b, s'⟩ <;> rw [hr] at h1 <;> simp only at h1 ⊢
    · rw [h1.2]; exact ⟨h1.1, Nat.le_refl _, by omega, fun hp => Bool.noConfusion hp, rfl, rfl⟩
    · simp only [List.length_cons] at hc ⊢
      obtain ⟨f1, f2, f3, f4, f5, f6⟩ := storeLoop_own r (s'.store b)
        (h1.1.store (by rw [h1.2]; omega)) (by simp [h1.2]; omega)
      simp only [St.store_len, St.store_cap, St.store_h, h1.2] at f2 f3 f4 f5 f6
      exact ⟨f1, by omega, by omega, fun hp => by rw [f4 hp]; omega, f5, f6⟩

structure Filled (s : St) (r : Bool × St) (L : List Nat) (k : Nat) : Prop where
  ok : r.1 = false
  post : Post s r.2 (L ++ List.range' s.mem.next k)
  budget : r.2.mem.budget = none
  next : r.2.mem.next = s.mem.next + k
  out : r.2.mem.out = s.mem.out

theorem Filled.zero {s : St} {L : List Nat} (hv : LocalVec s.v L) (hb : s.mem.budget = none) :
    Filled s (false, s) L 0 :=
  ⟨rfl, by simpa using Post.same hv rfl, hb, rfl, rfl⟩

theorem storeLoop_filled : ∀ (srcs : List (Option Nat)) (s : St) (L : List Nat), LocalVec s.v L →
    s.mem.budget = none → L.length + srcs.length ≤ s.v.cap →
    Filled s (storeLoop srcs s) L srcs.length
  | [], _, _, hv, hb, _ => Filled.zero hv hb
  | src :: r, s, L, hv, hb, hc => by
    unfold storeLoop
    simp only [List.length_cons] at hc ⊢
    obtain ⟨m', e1, e2, e3, e4⟩ := Mem.produce_of_none src hb
    simp only [St.onMem_eq, e1]
    have hp := St.store_post (s := { s with mem := m' }) s.mem.next hv (by simp only; omega)
    have hmem : (St.store s.mem.next { s with mem := m' }).mem = m' :=
      St.store_mem (s := { s with mem := m' }) _ hv (by simp only; omega)
    have ih := storeLoop_filled r _ (L ++ [s.mem.next]) hp.view (by rw [hmem]; exact e2)
      (by rw [hp.cap]; simp; omega)
    obtain ⟨i1, i2, i3, i4, i5⟩ := ih
    rw [hmem] at i2 i4 i5
    rw [e4] at i2
    exact ⟨i1, by simpa [List.range'_succ] using i2.trans (s := s) hp.cap hp.hdr, i3, by rw [i4, e4]; omega,
      by rw [i5, e3]⟩

theorem mkVals_own {loc locB} : ∀ (n : Nat) (s : St), OwnL fl s loc locB →
    (mkVals n s).1.length = n ∧ (mkVals n s).2.v = s.v ∧
      OwnL fl (mkVals n s).2 ((mkVals n s).1 ++ loc) locB
  | 0, _, h => ⟨rfl, rfl, h⟩
  | n + 1, s, h => by
    obtain ⟨hl, hv, ho⟩ := mkVals_own (loc := (s.onMem Mem.mkVal).1 :: loc) n _ h.mkVal
    simp only [mkVals]
    exact ⟨by simp [hl], by simp [hv], ho.perm (by perm_tac)⟩

theorem iTryPush_own {s loc locB} (h : OwnL fl s loc locB) : OwnL fl (iTryPush s).2 loc locB := by
  unfold iTryPush
  dsimp only [St.onMem, Mem.mkVal]
  split
  · exact h.mkVal.store (by assumption)
  · exact h.mkVal.retId

theorem iPush_own {s loc locB} (h : OwnL fl s loc locB) : OwnL fl (iPush s).2 loc locB := by
  unfold iPush
  dsimp only [St.onMem, Mem.mkVal]
  split
  · exact h.mkVal.store (by assumption)
  · exact h.mkVal.dropId

theorem OwnL.take_last {s loc locB} (h : OwnL fl s loc locB) (hpos : s.v.len ≠ 0) :
    ∃ a, s.v.get (s.v.len - 1) = .init a ∧ OwnL fl (s.setLen (s.v.len - 1)) (a :: loc) locB := by
  obtain ⟨tl, h1, h2, h3⟩ := h.setLen_take (n := s.v.len - 1) (by omega)
  have hr := Vec.range_one (v := s.v) (j := s.v.len - 1) (by have := h.len_le; omega)
  rw [show s.v.len - 1 + 1 = s.v.len by omega] at hr
  rw [hr] at h1
  have h2 : tl.length = 1 := by omega
  match tl, h2 with
  | [a], _ => exact ⟨a, by simpa using h1, h3⟩

theorem iPop_own {s loc locB} (h : OwnL fl s loc locB) : OwnL fl (iPop s).2 loc locB := by
  unfold iPop
  split
  · exact h
  · obtain ⟨a, h1, h2⟩ := h.take_last (by assumption)
    simp only [St.onMem_eq, h1, Mem.readMove]
    exact OwnL.retId h2

/-- `set_len(n)`, then the tail is dropped by `d` (a `for` loop of drops, or `drop_in_place` of
the slice) -/
theorem OwnL.truncate {s loc locB} {d : List Slot → Mem → Bool × Mem}
    (hd : ∀ {s' : St} {as l}, OwnL fl s' (as ++ l) locB →
      OwnL fl (s'.onMem (d (as.map .init))).2 l locB)
    (h : OwnL fl s loc locB) {n : Nat} (hn : n ≤ s.v.len) :
    OwnL fl ((s.setLen n).onMem (d ((s.setLen n).v.range n s.v.len))).2 loc locB := by
  obtain ⟨tl, h1, -, h3⟩ := h.setLen_take hn
  have : (s.setLen n).v.range n s.v.len = tl.map .init := h1
  rw [this]
  exact hd h3

theorem iTruncate_own {s loc locB} (n : Nat) (h : OwnL fl s loc locB) :
    OwnL fl (iTruncate n s).2 loc locB := by
  unfold iTruncate
  split
  · exact h.truncate OwnL.dropLoop (by omega)
  · exact h

theorem iResizeWith_own {s loc locB} (n : Nat) (h : OwnL fl s loc locB) :
    OwnL fl (iResizeWith n s).2 loc locB := by
  unfold iResizeWith
  split
  · split
    · rw [iFillGen_eq]; exact (storeLoop_own _ _ h (by simp; omega)).1
    · exact h
  · exact iTruncate_own n h

theorem iResize_own {s loc locB} (n : Nat) (h : OwnL fl s loc locB) :
    OwnL fl (iResize n s).2 loc locB := by
  unfold iResize
  have h1 := h.mkVal
  generalize s.onMem Mem.mkVal = r at h1
  obtain ⟨x, s1⟩ := r
  simp only at h1 ⊢
  split
  · split
    · rw [iFillClone_eq]; exact (storeLoop_own _ _ h1 (by simp; omega)).1.dropId
    · exact h1.dropId
  · exact (iTruncate_own n h1).dropId

theorem iExtSlice_own {s loc locB} (n : Nat) (h : OwnL fl s loc locB) :
    OwnL fl (iExtSlice n s).2 loc locB := by
  unfold iExtSlice
  obtain ⟨hl, hv, ho⟩ := mkVals_own n s h
  generalize mkVals n s = r at hl hv ho
  obtain ⟨srcs, s1⟩ := r
  simp only at hl hv ho ⊢
  split
  · rw [iCloneIds_eq]; exact OwnL.markDrops (storeLoop_own _ s1 ho (by simp; omega)).1
  · exact OwnL.markDrops ho

theorem iExtWithin_own {s loc locB} (a b : Nat) (h : OwnL fl s loc locB) :
    OwnL fl (iExtWithin a b s).2 loc locB := by
  unfold iExtWithin
  split
  · split
    · rename_i h1 h2
      obtain ⟨M, e1, e2, e3⟩ := h.range_live h1.1 h1.2
      rw [e1, iCloneSlots_eq M s e3]
      exact (storeLoop_own _ s h (by simp; omega)).1
    · exact h
  · exact h

theorem iExtIter_own {loc locB} : ∀ (k : Nat) (s : St), OwnL fl s loc locB →
    OwnL fl (iExtIter k s).2 loc locB
  | 0, _, h => h.tick
  | k + 1, s, h => by
    unfold iExtIter
    have h1 := h.genVal
    rcases hr : s.onMem Mem.genVal with ⟨_ | b, s'⟩ <;> rw [hr] at h1 <;> simp only at h1 ⊢
    · exact h1.1
    · split
      · exact iExtIter_own k _ (h1.1.store (by assumption))
      · exact h1.1.dropId

/-- `pop_if`: the predicate is a fault point before anything is moved -/
theorem iPopIf_own {s loc locB} (ans : Bool) (h : OwnL fl s loc locB) :
    OwnL fl (iPopIf ans s).2 loc locB := by
  unfold iPopIf
  split
  · exact h
  · simp only
    split
    · exact h.tick
    · split
      · exact iPop_own h.tick
      · exact h.tick

/-- `extend` with its `into_iter` call and the drop of the iterator as fault points -/
theorem iExtend_own {s loc locB} (k : Nat) (h : OwnL fl s loc locB) :
    OwnL fl (iExtend k s).2 loc locB := by
  unfold iExtend
  simp only
  split
  · exact h.tick
  · exact (iExtIter_own k _ h.tick).tick

end HipVerif.Slots
