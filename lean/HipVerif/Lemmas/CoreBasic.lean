/-
Basic facts about the accessors and primitive transformers of the Core state machine.
-/
import HipVerif.Model.CoreWf

namespace HipVerif.Core

@[simp] theorem getH_setH_same (s : State) (h : Nat) (v : Option Handle) (hl : h < s.pool.length) :
    getH (setH s h v) h = v := by
  simp [getH, setH, hl]

@[simp] theorem getH_setH_other (s : State) (h h' : Nat) (v : Option Handle) (hne : h ≠ h') :
    getH (setH s h v) h' = getH s h' := by
  simp [getH, setH, List.getElem?_set_ne hne]

theorem getH_some_lt {s : State} {h : Nat} {hd : Handle} (hg : getH s h = some hd) : h < s.pool.length := by
  unfold getH at hg
  by_cases hl : h < s.pool.length
  · exact hl
  · simp [List.getElem?_eq_none (Nat.le_of_not_lt hl)] at hg

theorem getH_eq_getElem {s : State} {h : Nat} (hl : h < s.pool.length) : getH s h = s.pool[h] := by
  simp [getH, hl]

@[simp] theorem getI_setH (s : State) (h : Nat) (v : Option Handle) (i : Nat) :
    getI (setH s h v) i = getI s i := rfl

@[simp] theorem srcs_setH (s : State) (h : Nat) (v : Option Handle) : (setH s h v).srcs = s.srcs := rfl
@[simp] theorem nextBuf_setH (s : State) (h : Nat) (v : Option Handle) : (setH s h v).nextBuf = s.nextBuf := rfl
@[simp] theorem inners_setH (s : State) (h : Nat) (v : Option Handle) : (setH s h v).inners = s.inners := rfl
@[simp] theorem pool_length_setH (s : State) (h : Nat) (v : Option Handle) :
    (setH s h v).pool.length = s.pool.length := by simp [setH]

@[simp] theorem getH_setI (s : State) (i : Nat) (x : Inner) (h : Nat) : getH (setI s i x) h = getH s h := rfl
@[simp] theorem srcs_setI (s : State) (i : Nat) (x : Inner) : (setI s i x).srcs = s.srcs := rfl
@[simp] theorem nextBuf_setI (s : State) (i : Nat) (x : Inner) : (setI s i x).nextBuf = s.nextBuf := rfl
@[simp] theorem pool_setI (s : State) (i : Nat) (x : Inner) : (setI s i x).pool = s.pool := rfl

theorem getI_some_lt {s : State} {i : Nat} {x : Inner} (hg : getI s i = some x) : i < s.inners.length := by
  unfold getI at hg
  by_cases hl : i < s.inners.length
  · exact hl
  · simp [List.getElem?_eq_none (Nat.le_of_not_lt hl)] at hg

@[simp] theorem getI_setI_same (s : State) (i : Nat) (x : Inner) (hl : i < s.inners.length) :
    getI (setI s i x) i = some x := by
  simp [getI, setI, hl]

@[simp] theorem getI_setI_other (s : State) (i j : Nat) (x : Inner) (hne : i ≠ j) :
    getI (setI s i x) j = getI s j := by
  simp [getI, setI, List.getElem?_set_ne hne]

theorem getI_setI {s : State} {o : Nat} {x : Inner} (hx : getI s o = some x) (x' : Inner) (j : Nat) :
    getI (setI s o x') j = if o = j then some x' else getI s j := by
  by_cases h : o = j
  · subst h; rw [if_pos rfl]; exact getI_setI_same _ _ _ (getI_some_lt hx)
  · rw [if_neg h]; exact getI_setI_other _ _ _ _ h

theorem setH_setH (s : State) (h : Nat) (a b : Option Handle) : setH (setH s h a) h b = setH s h b := by
  simp [setH]

theorem setH_self {s : State} {h : Nat} {v : Option Handle} (hl : h < s.pool.length) (hg : getH s h = v) :
    setH s h v = s := by
  rw [getH_eq_getElem hl] at hg
  cases s
  simp only [setH, State.mk.injEq, true_and]
  simp at hg ⊢
  rw [← hg]; exact List.set_getElem_self hl

/-! ### reference counting over the pool -/

@[simp] theorem refsTo_setI (s : State) (i : Nat) (x : Inner) (j : Nat) : refsTo (setI s i x) j = refsTo s j := rfl

theorem refsTo_setH (s : State) (h : Nat) (v : Option Handle) (i : Nat) (hl : h < s.pool.length) :
    refsTo (setH s h v) i =
      refsTo s i - (if pointsTo i (getH s h) then 1 else 0) + (if pointsTo i v then 1 else 0) := by
  simp only [refsTo, setH, List.countP_set hl, getH_eq_getElem hl]

theorem refsTo_pos_of_getH {s : State} {h : Nat} {hd : Handle} {i : Nat}
    (hg : getH s h = some hd) (hp : pointsTo i (some hd) = true) : 0 < refsTo s i := by
  have hl := getH_some_lt hg
  have : s.pool[h] = some hd := by rw [← getH_eq_getElem hl]; exact hg
  unfold refsTo
  apply List.countP_pos_iff.mpr
  exact ⟨some hd, by rw [← this]; exact List.getElem_mem hl, hp⟩

@[simp] theorem pointsTo_none (i : Nat) : pointsTo i none = false := rfl

theorem pointsTo_heap (i o b off len : Nat) (t : Bool) :
    pointsTo i (some { repr := .heap o b off len, tainted := t }) = (o == i) := rfl

theorem pointsTo_inline (i : Nat) (bs : List UInt8) (t : Bool) :
    pointsTo i (some { repr := .inline bs, tainted := t }) = false := rfl

theorem pointsTo_borrowed (i a b c : Nat) (t : Bool) :
    pointsTo i (some { repr := .borrowed a b c, tainted := t }) = false := rfl

theorem pointsTo_of_heap {hd : Handle} {o pb off len : Nat} (hr : hd.repr = .heap o pb off len) (i : Nat) :
    pointsTo i (some hd) = (o == i) := by
  simp only [pointsTo, hr]

theorem pointsTo_true {i : Nat} {v : Option Handle} (h : pointsTo i v = true) :
    ∃ hd pb off len, v = some hd ∧ hd.repr = .heap i pb off len := by
  cases v with
  | none => cases h
  | some hd =>
    obtain ⟨r, t⟩ := hd
    cases r with
    | heap o pb off len => exact ⟨_, pb, off, len, rfl, by rw [show o = i from by simpa [pointsTo] using h]⟩
    | inline bs => cases h
    | borrowed a b c => cases h

theorem pointsTo_le_refsTo (s : State) (h i : Nat) : (if pointsTo i (getH s h) then 1 else 0) ≤ refsTo s i := by
  split
  · rename_i hp
    obtain ⟨hd, _, _, _, hg, _⟩ := pointsTo_true hp
    exact refsTo_pos_of_getH hg (hg ▸ hp)
  · exact Nat.zero_le _

theorem no_ref_of_refsTo_zero {s : State} {i : Nat} (hz : refsTo s i = 0) {h : Nat} {hd : Handle}
    (hg : getH s h = some hd) : pointsTo i (some hd) = false := by
  cases hp : pointsTo i (some hd)
  · rfl
  · have := refsTo_pos_of_getH hg hp; omega

/-! ### `HandleOk`, `view`, `hlen`, `isNormalized` by representation -/

theorem handleOk_heap {cfg : Cfg} {s : State} {hd : Handle} {o pb off len : Nat} (hr : hd.repr = .heap o pb off len) :
    HandleOk cfg s hd ↔ ∃ x, getI s o = some x ∧ x.live = true ∧ pb = x.buf ∧ off + len ≤ x.data.length := by
  unfold HandleOk; rw [hr]

theorem handleOk_inline {cfg : Cfg} {s : State} {hd : Handle} {bs : List UInt8} (hr : hd.repr = .inline bs) :
    HandleOk cfg s hd ↔ bs.length ≤ cfg.icap := by
  unfold HandleOk; rw [hr]

theorem handleOk_borrowed {cfg : Cfg} {s : State} {hd : Handle} {src off len : Nat} (hr : hd.repr = .borrowed src off len) :
    HandleOk cfg s hd ↔ off + len ≤ (s.srcs[src]?.getD []).length := by
  unfold HandleOk; rw [hr]

theorem view_heap_eq {s : State} {hd : Handle} {o pb off len : Nat} {x : Inner}
    (hr : hd.repr = .heap o pb off len) (hx : getI s o = some x) :
    view s hd = (x.data.drop off).take len := by
  unfold view; rw [hr]; simp [hx]

theorem view_inline_eq {s : State} {hd : Handle} {bs : List UInt8} (hr : hd.repr = .inline bs) :
    view s hd = bs := by
  unfold view; rw [hr]

theorem view_borrowed_eq {s : State} {hd : Handle} {src off len : Nat} (hr : hd.repr = .borrowed src off len) :
    view s hd = ((s.srcs[src]?.getD []).drop off).take len := by
  unfold view; rw [hr]

theorem hlen_heap {hd : Handle} {o pb off len : Nat} (hr : hd.repr = .heap o pb off len) : hlen hd = len := by
  unfold hlen; rw [hr]

theorem hlen_borrowed {hd : Handle} {src off len : Nat} (hr : hd.repr = .borrowed src off len) : hlen hd = len := by
  unfold hlen; rw [hr]

theorem isNormalized_heap (cfg : Cfg) (o pb off len : Nat) (t : Bool) :
    isNormalized cfg ⟨.heap o pb off len, t⟩ = decide (len > cfg.icap) := by
  simp [isNormalized, isInline, isBorrowed, hlen]

theorem slotFree_iff {s : State} {d : Nat} :
    slotFree s d = true ↔ d < s.pool.length ∧ getH s d = none := by
  unfold slotFree
  cases getH s d <;> simp

theorem wf_iff_wfx (cfg : Cfg) (s : State) : Wf cfg s ↔ WfX cfg s [] := by
  constructor
  · intro w
    exact { handles := w.handles, held := (by intro i hi; cases hi),
            counts := (by intro i x hg hl; simpa using w.counts i x hg hl),
            uniq := w.uniq, ceil := w.ceil, dead := w.dead, datacap := w.datacap,
            bufFresh := w.bufFresh, bufDistinct := w.bufDistinct }
  · intro w
    exact { handles := w.handles,
            counts := (by intro i x hg hl; simpa using w.counts i x hg hl),
            uniq := w.uniq, ceil := w.ceil, dead := w.dead, datacap := w.datacap,
            bufFresh := w.bufFresh, bufDistinct := w.bufDistinct }

theorem getH_init (srcs : List (List UInt8)) (n h : Nat) : getH (init srcs n) h = none := by
  simp only [getH, init]
  by_cases hl : h < n
  · simp [hl]
  · have : (List.replicate n (none : Option Handle))[h]? = none :=
      List.getElem?_eq_none (by simpa using Nat.le_of_not_lt hl)
    simp [this]

theorem wf_init (cfg : Cfg) (srcs : List (List UInt8)) (n : Nat) : Wf cfg (init srcs n) := by
  have hget : ∀ i, getI (init srcs n) i = none := by intro i; simp [getI, init]
  refine { handles := ?_, counts := ?_, uniq := ?_, ceil := ?_, dead := ?_, datacap := ?_,
           bufFresh := ?_, bufDistinct := ?_ }
  · intro h hd hg
    rw [getH_init] at hg; cases hg
  all_goals (intros; simp_all)

end HipVerif.Core
