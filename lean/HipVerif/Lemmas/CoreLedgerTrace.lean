/-
Trace-level consequences of `Accepted`: what a history whose every event passed its ledger check
looks like (each buffer enters at most once, leaves at most once, never after it left, …).
State-independent.
-/
import HipVerif.Lemmas.CoreLedger

namespace HipVerif.Core

def entersWith : Event → Option (Nat × Nat)
  | .allocBuf b c => some (b, c)
  | .importBuf b c => some (b, c)
  | .growBuf _ new c => some (new, c)
  | _ => none

def entersId (e : Event) : Option Nat := (entersWith e).map (·.1)

def leavesId : Event → Option Nat
  | .freeBuf b => some b
  | .exportBuf b => some b
  | .growBuf old _ _ => some old
  | _ => none

structure LedgerWf (L : Ledger) : Prop where
  disj : ∀ b, b ∈ L.liveIds → b ∉ L.gone

theorem ledgerWf_empty : LedgerWf Ledger.empty := ⟨fun _ h => by cases h⟩

namespace Ledger

theorem liveIds_enter (L : Ledger) (b c : Nat) : (L.enter b c).liveIds = b :: L.liveIds := rfl
theorem gone_enter (L : Ledger) (b c : Nat) : (L.enter b c).gone = L.gone := rfl
theorem gone_leave (L : Ledger) (b : Nat) : (L.leave b).gone = b :: L.gone := rfl

theorem mem_liveIds_leave {L : Ledger} {b b0 : Nat} : b ∈ (L.leave b0).liveIds ↔ b ∈ L.liveIds ∧ b ≠ b0 := by
  simp only [liveIds, leave, List.mem_map, List.mem_filter, bne_iff_ne, ne_eq]
  constructor
  · rintro ⟨p, ⟨hp, hne⟩, rfl⟩; exact ⟨⟨p, hp, rfl⟩, hne⟩
  · rintro ⟨⟨p, hp, rfl⟩, hne⟩; exact ⟨p, ⟨hp, hne⟩, rfl⟩

theorem gone_mono (L : Ledger) (e : Event) {b : Nat} (h : b ∈ L.gone) : b ∈ (L.apply e).gone := by
  cases e <;> simp [apply, enter, leave, h]

theorem ids_mono (L : Ledger) (e : Event) {b : Nat} (h : b ∈ L.ids) : b ∈ (L.apply e).ids := by
  have key : ∀ b0, b ∈ (L.leave b0).ids := by
    intro b0
    rcases List.mem_append.mp h with h | h
    · by_cases hb : b = b0
      · subst hb; exact List.mem_append.mpr (Or.inr (by simp [leave]))
      · exact List.mem_append.mpr (Or.inl (mem_liveIds_leave.mpr ⟨h, hb⟩))
    · exact List.mem_append.mpr (Or.inr (by simp [leave, h]))
  have key2 : ∀ (L' : Ledger) b0 c0, b ∈ L'.ids → b ∈ (L'.enter b0 c0).ids := by
    intro L' b0 c0 h'
    rcases List.mem_append.mp h' with h' | h'
    · exact List.mem_append.mpr (Or.inl (by rw [liveIds_enter]; exact List.mem_cons_of_mem _ h'))
    · exact List.mem_append.mpr (Or.inr h')
  cases e with
  | allocBuf b0 c0 => exact key2 L b0 c0 h
  | importBuf b0 c0 => exact key2 L b0 c0 h
  | growBuf old new c => exact key2 _ new c (key old)
  | freeBuf b0 => exact key b0
  | exportBuf b0 => exact key b0
  | allocInner _ => exact h
  | freeInner _ => exact h
  | write _ _ _ => exact h

theorem gone_mono_run (evs : List Event) : ∀ (L : Ledger) {b : Nat}, b ∈ L.gone → b ∈ (L.run evs).gone := by
  induction evs with
  | nil => intro L b h; exact h
  | cons e r ih => intro L b h; exact ih _ (gone_mono L e h)

theorem leaves_gone (L : Ledger) {e : Event} {b : Nat} (h : leavesId e = some b) : b ∈ (L.apply e).gone := by
  cases e <;> simp [leavesId] at h <;> subst h <;> simp [apply, enter, leave]

theorem gone_of_leaves (evs : List Event) : ∀ (L : Ledger) {e : Event} {b : Nat}, e ∈ evs →
    leavesId e = some b → b ∈ (L.run evs).gone := by
  induction evs with
  | nil => intro L e b he; cases he
  | cons e0 r ih =>
    intro L e b he hl
    rcases List.mem_cons.mp he with rfl | he
    · exact gone_mono_run r _ (leaves_gone L hl)
    · exact ih _ he hl

theorem enters_ids (L : Ledger) {e : Event} {b : Nat} (h : entersId e = some b) : b ∈ (L.apply e).ids := by
  cases e <;> simp [entersId, entersWith] at h <;> subst h <;> simp [apply, ids, liveIds, enter]

end Ledger

theorem ledgerWf_apply {L : Ledger} (hw : LedgerWf L) {e : Event} (he : EvGood L e) : LedgerWf (L.apply e) := by
  have hleave : ∀ b0, LedgerWf (L.leave b0) := by
    refine fun b0 => ⟨fun b hb => ?_⟩
    obtain ⟨h1, h2⟩ := Ledger.mem_liveIds_leave.mp hb
    simp only [Ledger.gone_leave, List.mem_cons, not_or]
    exact ⟨h2, hw.disj b h1⟩
  have henter : ∀ (L' : Ledger) b0 c0, LedgerWf L' → b0 ∉ L'.gone → LedgerWf (L'.enter b0 c0) := by
    refine fun L' b0 c0 hw' hn => ⟨fun b hb => ?_⟩
    rw [Ledger.liveIds_enter] at hb
    rcases List.mem_cons.mp hb with rfl | hb
    · exact hn
    · exact hw'.disj b hb
  have hgone : ∀ {b}, b ∉ L.ids → b ∉ L.gone := fun h hm => h (List.mem_append.mpr (Or.inr hm))
  cases e with
  | allocBuf b0 c0 => exact henter L b0 c0 hw (hgone he.2)
  | importBuf b0 c0 => exact henter L b0 c0 hw (hgone he.2)
  | growBuf old new c =>
    obtain ⟨hold, hnew, _⟩ := he
    refine henter _ new c (hleave old) ?_
    rw [Ledger.gone_leave]
    intro hm
    rcases List.mem_cons.mp hm with rfl | hm
    · exact hnew (List.mem_append.mpr (Or.inl hold))
    · exact hgone hnew hm
  | freeBuf b0 => exact hleave b0
  | exportBuf b0 => exact hleave b0
  | allocInner _ => exact hw
  | freeInner _ => exact hw
  | write _ _ _ => exact hw

theorem ledgerWf_run {evs : List Event} : ∀ {L : Ledger}, LedgerWf L → Accepted L evs → LedgerWf (L.run evs) := by
  induction evs with
  | nil => intro L hw _; exact hw
  | cons e r ih => intro L hw ha; exact ih (ledgerWf_apply hw ha.1) ha.2

theorem accepted_split {L : Ledger} {pre post : List Event} {e : Event}
    (h : Accepted L (pre ++ e :: post)) :
    Accepted L pre ∧ EvGood (L.run pre) e ∧ Accepted ((L.run pre).apply e) post := by
  obtain ⟨h1, h2⟩ := accepted_append.mp h
  exact ⟨h1, h2.1, h2.2⟩

theorem enters_at_most_once (evs : List Event) : ∀ {L : Ledger}, Accepted L evs → ∀ b,
    evs.countP (fun e => entersId e == some b) ≤ (if b ∈ L.ids then 0 else 1) := by
  induction evs with
  | nil => intro L _ b; simp
  | cons e r ih =>
    intro L ha b
    have hr := ih ha.2 b
    rw [List.countP_cons]
    by_cases he : entersId e = some b
    · have hin : b ∈ (L.apply e).ids := Ledger.enters_ids L he
      have hnot : b ∉ L.ids := by
        have hg := ha.1
        cases e <;> simp [entersId, entersWith] at he <;> subst he
        · exact hg.2
        · exact hg.2.1
        · exact hg.2
      simp only [hin, if_true] at hr
      simp only [he, beq_self_eq_true, if_true, hnot, if_false]
      omega
    · have : (entersId e == some b) = false := by simpa using he
      simp only [this, Bool.false_eq_true, if_false, Nat.add_zero]
      by_cases hb : b ∈ L.ids
      · have := Ledger.ids_mono L e hb
        simp only [this, if_true] at hr
        simp only [hb, if_true]
        omega
      · simp only [hb, if_false]
        split at hr <;> omega

theorem leaves_at_most_once (evs : List Event) : ∀ {L : Ledger}, LedgerWf L → Accepted L evs → ∀ b,
    evs.countP (fun e => leavesId e == some b) ≤ (if b ∈ L.gone then 0 else 1) := by
  induction evs with
  | nil => intro L _ _ b; simp
  | cons e r ih =>
    intro L hw ha b
    have hr := ih (ledgerWf_apply hw ha.1) ha.2 b
    rw [List.countP_cons]
    by_cases he : leavesId e = some b
    · have hin : b ∈ (L.apply e).gone := Ledger.leaves_gone L he
      have hnot : b ∉ L.gone := by
        have hg := ha.1
        cases e <;> simp [leavesId] at he <;> subst he
        · exact hw.disj _ hg
        · exact hw.disj _ hg.1
        · exact hw.disj _ hg
      simp only [hin, if_true] at hr
      simp only [he, beq_self_eq_true, if_true, hnot, if_false]
      omega
    · have : (leavesId e == some b) = false := by simpa using he
      simp only [this, Bool.false_eq_true, if_false, Nat.add_zero]
      by_cases hb : b ∈ L.gone
      · have := Ledger.gone_mono L e hb
        simp only [this, if_true] at hr
        simp only [hb, if_true]
        omega
      · simp only [hb, if_false]
        split at hr <;> omega

theorem live_entered (pre : List Event) : ∀ (L : Ledger) (b c : Nat), (b, c) ∈ (L.run pre).live →
    (b, c) ∈ L.live ∨ ∃ e, e ∈ pre ∧ entersWith e = some (b, c) := by
  induction pre with
  | nil => intro L b c h; exact Or.inl h
  | cons e r ih =>
    intro L b c h
    rcases ih (L.apply e) b c h with h1 | ⟨e', he', hw⟩
    · have hle : ∀ (L' : Ledger) b0, (b, c) ∈ (L'.leave b0).live → (b, c) ∈ L'.live :=
        fun L' b0 hm => (Ledger.mem_leave_live.mp hm).1
      cases e with
      | allocBuf b0 c0 =>
        simp only [Ledger.apply, Ledger.enter, List.mem_cons, Prod.mk.injEq] at h1
        rcases h1 with ⟨rfl, rfl⟩ | h1
        · exact Or.inr ⟨_, List.mem_cons_self .., rfl⟩
        · exact Or.inl h1
      | importBuf b0 c0 =>
        simp only [Ledger.apply, Ledger.enter, List.mem_cons, Prod.mk.injEq] at h1
        rcases h1 with ⟨rfl, rfl⟩ | h1
        · exact Or.inr ⟨_, List.mem_cons_self .., rfl⟩
        · exact Or.inl h1
      | growBuf old new c0 =>
        simp only [Ledger.apply, Ledger.enter, List.mem_cons, Prod.mk.injEq] at h1
        rcases h1 with ⟨rfl, rfl⟩ | h1
        · exact Or.inr ⟨_, List.mem_cons_self .., rfl⟩
        · exact Or.inl (hle L old h1)
      | freeBuf b0 => exact Or.inl (hle L b0 h1)
      | exportBuf b0 => exact Or.inl (hle L b0 h1)
      | allocInner _ => exact Or.inl h1
      | freeInner _ => exact Or.inl h1
      | write _ _ _ => exact Or.inl h1
    · exact Or.inr ⟨e', List.mem_cons_of_mem _ he', hw⟩

theorem live_stays_or_leaves (evs : List Event) : ∀ (L : Ledger) (b c : Nat), (b, c) ∈ L.live →
    (b, c) ∈ (L.run evs).live ∨ ∃ e, e ∈ evs ∧ leavesId e = some b := by
  induction evs with
  | nil => intro L b c h; exact Or.inl h
  | cons e r ih =>
    intro L b c h
    by_cases hl : leavesId e = some b
    · exact Or.inr ⟨e, List.mem_cons_self .., hl⟩
    · have hkeep : (b, c) ∈ (L.apply e).live := by
        have k : ∀ b0, leavesId e = some b0 → (b, c) ∈ (L.leave b0).live :=
          fun b0 h0 => Ledger.mem_leave_live.mpr ⟨h, fun hb => hl (hb ▸ h0)⟩
        cases e with
        | allocBuf b0 c0 => exact List.mem_cons_of_mem _ h
        | importBuf b0 c0 => exact List.mem_cons_of_mem _ h
        | growBuf old new c0 => exact List.mem_cons_of_mem _ (k old rfl)
        | freeBuf b0 => exact k b0 rfl
        | exportBuf b0 => exact k b0 rfl
        | allocInner _ => exact h
        | freeInner _ => exact h
        | write _ _ _ => exact h
      rcases ih _ b c hkeep with h1 | ⟨e', he', hl'⟩
      · exact Or.inl h1
      · exact Or.inr ⟨e', List.mem_cons_of_mem _ he', hl'⟩

theorem live_stays_or_gone (evs : List Event) (L : Ledger) {b c : Nat} (h : (b, c) ∈ L.live) :
    (b, c) ∈ (L.run evs).live ∨ b ∈ (L.run evs).gone := by
  rcases live_stays_or_leaves evs L b c h with h | ⟨e, he, hl⟩
  · exact Or.inl h
  · exact Or.inr (Ledger.gone_of_leaves evs L he hl)

theorem no_write_when_gone (evs : List Event) : ∀ {L : Ledger}, LedgerWf L → Accepted L evs → ∀ b,
    b ∈ L.gone → ∀ lo hi, Event.write b lo hi ∉ evs := by
  induction evs with
  | nil => intro L _ _ b _ lo hi h; cases h
  | cons e r ih =>
    intro L hw ha b hb lo hi hm
    rcases List.mem_cons.mp hm with rfl | hm
    · obtain ⟨_, c, hc, _⟩ := ha.1
      exact hw.disj b (Ledger.mem_liveIds.mpr ⟨c, hc⟩) hb
    · exact ih (ledgerWf_apply hw ha.1) ha.2 b (Ledger.gone_mono L e hb) lo hi hm

theorem ids_mono_run (evs : List Event) : ∀ (L : Ledger) {b : Nat}, b ∈ L.ids → b ∈ (L.run evs).ids := by
  induction evs with
  | nil => intro L b h; exact h
  | cons e r ih => intro L b h; exact ih _ (Ledger.ids_mono L e h)

theorem leaves_after_enter {evs pre post : List Event} {e : Event} {b : Nat}
    (hacc : Accepted Ledger.empty evs) (hsplit : evs = pre ++ e :: post) (hleave : leavesId e = some b) :
    ∃ e', e' ∈ pre ∧ entersId e' = some b := by
  rw [hsplit] at hacc
  obtain ⟨_, hgood, _⟩ := accepted_split hacc
  have hin : b ∈ (Ledger.empty.run pre).liveIds := by
    cases e <;> simp [leavesId] at hleave <;> subst hleave
    · exact hgood
    · exact hgood.1
    · exact hgood
  obtain ⟨c, hc⟩ := Ledger.mem_liveIds.mp hin
  rcases live_entered pre Ledger.empty b c hc with h | ⟨e', he', hw⟩
  · cases h
  · exact ⟨e', he', by simp [entersId, hw]⟩

theorem enter_leave_counts {evs : List Event} (hacc : Accepted Ledger.empty evs) (b : Nat) :
    evs.countP (fun e => leavesId e == some b) ≤ evs.countP (fun e => entersId e == some b) ∧
    evs.countP (fun e => entersId e == some b) ≤ 1 := by
  have h1 := enters_at_most_once evs hacc b
  have h2 := leaves_at_most_once evs ledgerWf_empty hacc b
  have h1' : evs.countP (fun e => entersId e == some b) ≤ 1 := by split at h1 <;> omega
  have h2' : evs.countP (fun e => leavesId e == some b) ≤ 1 := by split at h2 <;> omega
  refine ⟨?_, h1'⟩
  by_cases hz : evs.countP (fun e => leavesId e == some b) = 0
  · omega
  · obtain ⟨e, he, hp⟩ := List.countP_pos_iff.mp (Nat.pos_of_ne_zero hz)
    obtain ⟨pre, post, hsplit⟩ := List.append_of_mem he
    obtain ⟨e', he', hent⟩ := leaves_after_enter hacc hsplit (by simpa using hp)
    have : 0 < evs.countP (fun e => entersId e == some b) :=
      List.countP_pos_iff.mpr ⟨e', by rw [hsplit]; exact List.mem_append.mpr (Or.inl he'), by simp [hent]⟩
    omega

theorem live_entered_once_never_left {evs : List Event} (hacc : Accepted Ledger.empty evs) {b c : Nat}
    (hin : (b, c) ∈ (Ledger.empty.run evs).live) :
    evs.countP (fun e => entersId e == some b) = 1 ∧ evs.countP (fun e => leavesId e == some b) = 0 ∧
    ∃ e, e ∈ evs ∧ entersWith e = some (b, c) := by
  have hent : ∃ e, e ∈ evs ∧ entersWith e = some (b, c) := by
    rcases live_entered evs Ledger.empty b c hin with h | h
    · cases h
    · exact h
  obtain ⟨e0, he0, hw0⟩ := hent
  have hpos : 0 < evs.countP (fun e => entersId e == some b) :=
    List.countP_pos_iff.mpr ⟨e0, he0, by simp [entersId, hw0]⟩
  have hle := (enter_leave_counts hacc b).2
  refine ⟨by omega, ?_, e0, he0, hw0⟩
  apply Classical.byContradiction
  intro hz
  obtain ⟨e, he, hp⟩ := List.countP_pos_iff.mp (Nat.pos_of_ne_zero hz)
  exact (ledgerWf_run ledgerWf_empty hacc).disj b (Ledger.mem_liveIds.mpr ⟨c, hin⟩)
    (Ledger.gone_of_leaves evs _ he (by simpa using hp))

end HipVerif.Core
