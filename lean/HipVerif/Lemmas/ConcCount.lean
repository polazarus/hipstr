import HipVerif.Lemmas.ConcBase

/-!
# C04, counting half: the invariant `Wf1` and its preservation

`Wf1` holds in every reachable state of the model for every protocol description that has the
expected *shape* (`ShapeOk`: every modification of the count is an RMW, the CAS loop is bounded
by the ceiling); no assumption on memory orderings is needed for this half.
-/

namespace HipVerif.Model.Conc
open HipVerif.Model

def ShapeOk (c : Cfg) : Prop :=
  decrShape c.proto = true ∧ incrShape c.proto = true ∧ incrBoundOk c.ceil c.proto = true ∧
  uniqShape c.proto = true ∧ getShape c.proto = true

/-- The protocol description in normal form: same statements as the current source, arbitrary
orderings, fences and loop bound. -/
structure Shape (c : Cfg) where
  /-- ordering of the `fetch_sub` of `decr` -/
  decrOrd : Ord
  /-- fences of `decr` before `Overflow` / before `Done` -/
  decrThen : List Simple
  decrElse : List Simple
  /-- ordering of the initial load of `incr` -/
  incrLoadOrd : Ord
  /-- the compare-exchange of `incr`: weak?, loop bound, success and failure orderings -/
  casWeak : Bool
  casBound : Bound
  casSuccOrd : Ord
  casFailOrd : Ord
  /-- ordering of the load of `is_unique` -/
  uniqLoadOrd : Ord
  /-- fences of `is_unique` before `true` / before `false` -/
  uniqThen : List Simple
  uniqElse : List Simple
  /-- `get` is `load(getLoadOrd) + getPlus` -/
  getLoadOrd : Ord
  getPlus : Nat
  hdecr : c.proto.decr =
    [.rmwSub 1 decrOrd, .branch .eq (.lit 0) decrThen .overflow decrElse .done]
  hdecrThen : fenceArm decrThen = true
  hdecrElse : fenceArm decrElse = true
  hincr : c.proto.incr =
    [.load incrLoadOrd, .casLoop casWeak casBound casSuccOrd casFailOrd, .ret .overflow]
  hbound : casBound.eval c.ceil ≤ c.ceil
  huniq : c.proto.isUnique =
    [.load uniqLoadOrd, .branch .eq (.lit 0) uniqThen (.bool true) uniqElse (.bool false)]
  huniqThen : fenceArm uniqThen = true
  huniqElse : fenceArm uniqElse = true
  hget : c.proto.get = [.load getLoadOrd, .ret (.oldPlus getPlus)]

theorem Shape.ofOk {c : Cfg} (h : ShapeOk c) : Nonempty (Shape c) := by
  obtain ⟨hd, hi, hb, hu, hg⟩ := h
  unfold decrShape at hd
  unfold incrShape at hi
  unfold incrBoundOk at hb
  unfold uniqShape at hu
  unfold getShape at hg
  -- each Bool check is a `match` on the method body: only its first alternative can hold
  split at hd
  case h_2 => cases hd
  rename_i decrOrd decrThen decrElse hdecr
  split at hi
  case h_2 => cases hi
  rename_i incrLoadOrd casWeak casBound casSuccOrd casFailOrd hincr
  split at hu
  case h_2 => cases hu
  rename_i uniqLoadOrd uniqThen uniqElse huniq
  split at hg
  case h_2 => cases hg
  rename_i getLoadOrd getPlus hget
  rw [hincr] at hb
  simp only [Bool.and_eq_true, decide_eq_true_eq] at hd hu hb
  exact ⟨{ decrOrd, decrThen, decrElse, incrLoadOrd, casWeak, casBound, casSuccOrd, casFailOrd,
           uniqLoadOrd, uniqThen, uniqElse, getLoadOrd, getPlus, hdecr, hdecrThen := hd.1,
           hdecrElse := hd.2, hincr, hbound := hb, huniq, huniqThen := hu.1, huniqElse := hu.2, hget }⟩

def PcOk (c : Cfg) (pc : Pc) : Prop :=
  match pc.k with
  | .drop => pc.code = c.proto.decr ∨ localRet pc.code = some .overflow ∨ localRet pc.code = some .done
  | .clone => pc.code = c.proto.incr ∨ pc.code = c.proto.incr.tail ∨
      localRet pc.code = some .done ∨ localRet pc.code = some .overflow
  | .mutate => pc.code = c.proto.isUnique ∨ ∃ b, localRet pc.code = some (.bool b)
  | .unwrap => pc.code = c.proto.isUnique ∨ ∃ b, localRet pc.code = some (.bool b)
  | .count => pc.code = c.proto.get ∨ ∃ k, localRet pc.code = some (.oldPlus k)

/-- Handles owned by a thread that has exclusive access: none for the thread that frees after
its decrement, one for the unique owner. -/
def exclOwn (th : Thread) : Nat :=
  match th.pc with
  | some ⟨.drop, _, _⟩ => 0
  | _ => 1

/-- Side conditions of an in-flight method: `clone`/`count` (`&self`) run on an own handle or a
borrowed reference; `mutate`/`unwrap` on an own handle; and only `&self` methods run while a
handle of the thread is lent out (`pin`). -/
def PcSide (pin : Bool) (th : Thread) (pc : Pc) : Prop :=
  (pc.k = .clone ∨ pc.k = .count → 1 ≤ th.handles ∨ th.refs ≠ []) ∧
  (pc.k = .mutate ∨ pc.k = .unwrap → 1 ≤ th.handles) ∧
  (pc.k ≠ .clone → pc.k ≠ .count → pin = false)

structure Wf1 (c : Cfg) (s : State) : Prop where
  /-- the last message of the count is `live handles - 1` (a lent handle counts once) -/
  track : 1 ≤ total s → s.last.val + 1 = total s
  /-- the stored count never exceeds the ceiling -/
  ceil : 1 ≤ total s → s.last.val ≤ c.ceil
  /-- `J`: a `0` that is not the last message is out of reach of every thread that holds a
  handle: its coherence index is already past it, or (its handle is lent out and) one of the
  borrowers' is, and will be joined into it when the reference comes back -/
  J : ∀ (i : Nat) m, s.hist[i]? = some m → m.val = 0 →
        ∀ (t : Nat) th, s.thr[t]? = some th → 1 ≤ owned th →
          i < th.coh ∨ ∃ (w : Nat) (wh : Thread), s.thr[w]? = some wh ∧ t ∈ wh.refs ∧ i < wh.coh
  /-- in-flight methods are at a reachable program point, on a handle or reference -/
  pcok : ∀ (t : Nat) th pc, s.thr[t]? = some th → th.pc = some pc →
        PcOk c pc ∧ PcSide (pinned s t) th pc
  /-- a lent handle is alive -/
  Rf : ∀ (w : Nat) wh (u : Nat), s.thr[w]? = some wh → u ∈ wh.refs →
        ∃ uh, s.thr[u]? = some uh ∧ 1 ≤ uh.handles
  /-- a thread with exclusive access is alone -/
  X : ∀ (t : Nat) th, s.thr[t]? = some th → excl th = true →
        (∀ (u : Nat) uh, u ≠ t → s.thr[u]? = some uh → owned uh = 0 ∧ excl uh = false) ∧
        owned th = exclOwn th ∧ s.freed = 0
  /-- freed at most once, and then nobody refers to the buffer -/
  Fz : s.freed ≤ 1 ∧
        (s.freed = 1 → ∀ (t : Nat) th, s.thr[t]? = some th → owned th = 0 ∧ excl th = false)
  /-- when no handle is left the buffer has been freed or is about to be -/
  L : total s = 0 → s.freed = 1 ∨ ∃ (t : Nat) (th : Thread), s.thr[t]? = some th ∧ excl th = true

theorem pinned_iff (s : State) (u : Nat) :
    pinned s u = true ↔ ∃ (w : Nat) (wh : Thread), s.thr[w]? = some wh ∧ u ∈ wh.refs := by
  simp only [pinned, List.any_eq_true, List.contains_iff_mem]
  constructor
  · rintro ⟨wh, hmem, hu⟩
    obtain ⟨w, hw⟩ := List.mem_iff_getElem?.1 hmem
    exact ⟨w, wh, hw, hu⟩
  · rintro ⟨w, wh, hw, hu⟩
    exact ⟨wh, List.mem_iff_getElem?.2 ⟨w, hw⟩, hu⟩

theorem not_mem_of_not_pinned {s : State} {u : Nat} (h : pinned s u = false) {w : Nat} {wh : Thread}
    (hw : s.thr[w]? = some wh) : u ∉ wh.refs := by
  intro hm
  have := (pinned_iff s u).2 ⟨w, wh, hw, hm⟩
  simp [h] at this

theorem pinned_of_set {s s' : State} {t : Nat} {th th' : Thread} (ht : s.thr[t]? = some th)
    (hthr : s'.thr = s.thr.set t th') (hrefs : ∀ x, x ∈ th'.refs → x ∈ th.refs) {u : Nat}
    (hp : pinned s' u = true) : pinned s u = true := by
  rw [pinned_iff, hthr] at hp
  obtain ⟨w, wh, hw, hm⟩ := hp
  rcases get_set_cases ht hw with ⟨rfl, rfl⟩ | ⟨_, hw'⟩
  · exact (pinned_iff s u).2 ⟨_, th, ht, hrefs u hm⟩
  · exact (pinned_iff s u).2 ⟨w, wh, hw', hm⟩

theorem pinned_set_same {s s' : State} {t : Nat} {th th' : Thread} (ht : s.thr[t]? = some th)
    (hthr : s'.thr = s.thr.set t th') (hrefs : th'.refs = th.refs) (u : Nat) :
    pinned s' u = pinned s u := by
  rw [Bool.eq_iff_iff]
  refine ⟨pinned_of_set ht hthr fun x hx => hrefs ▸ hx, fun hp => ?_⟩
  rw [pinned_iff] at hp ⊢
  rw [hthr]
  exact exists_get_set ht (fun hx => hrefs ▸ hx) hp

theorem canUse_iff {th : Thread} : canUse th = true ↔ 1 ≤ th.handles ∨ th.refs ≠ [] := by
  unfold canUse
  cases hr : th.refs <;> simp <;> omega

theorem canOwn_iff {s : State} {t : Nat} {th : Thread} :
    canOwn s t th = true ↔ 1 ≤ th.handles ∧ pinned s t = false := by
  unfold canOwn
  cases pinned s t <;> simp <;> omega

theorem uses_of_handles {th : Thread} (h : 1 ≤ th.handles ∨ th.refs ≠ []) :
    1 ≤ owned th ∨ th.refs ≠ [] :=
  h.imp (fun h1 => Nat.le_trans h1 (handles_le_owned th)) id

theorem PcSide.congr {pin pin' : Bool} {th th' : Thread} {pc pc' : Pc} (h : PcSide pin th pc)
    (hk : pc'.k = pc.k) (hh : th.handles ≤ th'.handles) (hr : th'.refs = th.refs)
    (hp : pin = false → pin' = false) : PcSide pin' th' pc' := by
  obtain ⟨h1, h2, h3⟩ := h
  rw [PcSide, hk, hr]
  exact ⟨fun hk' => (h1 hk').imp (fun h => Nat.le_trans h hh) id,
    fun hk' => Nat.le_trans (h2 hk') hh, fun a b => hp (h3 a b)⟩

theorem PcSide.ofUse {pin : Bool} {th : Thread} {pc : Pc} (hk : pc.k = .clone ∨ pc.k = .count)
    (hu : 1 ≤ th.handles ∨ th.refs ≠ []) : PcSide pin th pc := by
  refine ⟨fun _ => hu, ?_, ?_⟩
  · intro h; rcases hk with hk | hk <;> rcases h with h | h <;> rw [hk] at h <;> cases h
  · intro h1 h2; exact (hk.elim h1 h2).elim

theorem PcSide.ofOwn {pin : Bool} {th : Thread} {pc : Pc} (hh : 1 ≤ th.handles) (hp : pin = false) :
    PcSide pin th pc := ⟨fun _ => Or.inl hh, fun _ => hh, fun _ _ => hp⟩

theorem PcSide.ofDrop {pin : Bool} {th : Thread} {pc : Pc} (hk : pc.k = .drop) (hp : pin = false) :
    PcSide pin th pc := by
  refine ⟨?_, ?_, fun _ _ => hp⟩ <;> intro h <;> rcases h with h | h <;> rw [hk] at h <;> cases h

theorem excl_kind {th : Thread} (h : excl th = true) :
    ∃ pc, th.pc = some pc ∧ pc.k ≠ .clone ∧ pc.k ≠ .count := by
  unfold excl at h
  split at h <;> first | (simp at h; done) | exact ⟨_, by assumption, by simp, by simp⟩

theorem owned_of_excl {th : Thread} (h : excl th = true) : owned th = th.handles := by
  obtain ⟨handles, view, pend, coh, pc, res, refs⟩ := th
  cases pc with
  | none => cases h
  | some pc =>
    obtain ⟨k, code, old⟩ := pc
    cases k <;> simp [excl] at h <;> simp [owned, inflight, h]

section uniq
variable {th : Thread} {k : Kont} {code : List AStep} {old : Nat}
  (hk : k = .mutate ∨ k = .unwrap) (hpc : th.pc = some ⟨k, code, old⟩)
include hk hpc

theorem owned_uniq : owned th = th.handles := by
  unfold owned; rw [hpc]; rcases hk with rfl | rfl <;> rfl

theorem excl_uniq : excl th = (localRet code == some (.bool true)) := by
  unfold excl; rw [hpc]; rcases hk with rfl | rfl <;> rfl

theorem exclOwn_uniq : exclOwn th = 1 := by
  unfold exclOwn; rw [hpc]; rcases hk with rfl | rfl <;> rfl

end uniq

theorem PcOk.uniq_ret {c : Cfg} {k : Kont} {code : List AStep} {old : Nat} {b : Bool}
    (hk : k = .mutate ∨ k = .unwrap) (h : localRet code = some (.bool b)) : PcOk c ⟨k, code, old⟩ := by
  rcases hk with rfl | rfl <;> exact Or.inr ⟨b, h⟩

theorem Wf1.excl_no_refs {c : Cfg} {s : State} (h : Wf1 c s) {t : Nat} {th : Thread}
    (ht : s.thr[t]? = some th) (hx : excl th = true) {w : Nat} {wh : Thread}
    (hw : s.thr[w]? = some wh) : wh.refs = [] := by
  cases hr : wh.refs with
  | nil => rfl
  | cons u rest =>
    exfalso
    have hu : u ∈ wh.refs := by rw [hr]; exact List.mem_cons_self
    obtain ⟨uh, huh, hh⟩ := h.Rf w wh u hw hu
    rcases get_cases ht huh with ⟨rfl, rfl⟩ | hut
    · obtain ⟨pc, hpc, hk1, hk2⟩ := excl_kind hx
      exact not_mem_of_not_pinned ((h.pcok u uh pc ht hpc).2.2.2 hk1 hk2) hw hu
    · have := ((h.X t th ht hx).1 u uh hut huh).1
      have := handles_le_owned uh
      omega

theorem Wf1.user_facts {c : Cfg} {s : State} (h : Wf1 c s) {t : Nat} {th : Thread}
    (ht : s.thr[t]? = some th) (ho : 1 ≤ owned th ∨ th.refs ≠ []) :
    s.freed = 0 ∧ 1 ≤ total s ∧
      ∀ (u : Nat) uh, u ≠ t → s.thr[u]? = some uh → excl uh = false := by
  -- some thread `v` owns a handle
  have hown : ∃ (v : Nat) (vh : Thread), s.thr[v]? = some vh ∧ 1 ≤ owned vh := by
    rcases ho with ho | ho
    · exact ⟨t, th, ht, ho⟩
    · obtain ⟨u, hu⟩ := List.exists_mem_of_ne_nil _ ho
      obtain ⟨uh, huh, hh⟩ := h.Rf t th u ht hu
      exact ⟨u, uh, huh, Nat.le_trans hh (handles_le_owned uh)⟩
  obtain ⟨v, vh, hv, hvo⟩ := hown
  refine ⟨?_, Nat.le_trans hvo (owned_le_total s v vh hv), ?_⟩
  · rcases Nat.lt_or_ge s.freed 1 with hf | hf
    · omega
    · have := (h.Fz.2 (by have := h.Fz.1; omega) v vh hv).1; omega
  · intro u uh hu huh
    cases hx : excl uh with
    | false => rfl
    | true =>
      exfalso
      rcases get_cases huh hv with ⟨rfl, rfl⟩ | hvu
      · -- `u` is excl and owns: then `t` cannot hold a reference, so `t` owns: contradiction
        rcases ho with ho | ho
        · have := ((h.X v vh hv hx).1 t th (Ne.symm hu) ht).1; omega
        · exact ho (h.excl_no_refs hv hx ht)
      · have := ((h.X u uh huh hx).1 v vh hvu hv).1; omega

theorem Wf1.zero_is_last {c : Cfg} {s : State} (h : Wf1 c s) {t : Nat} {th : Thread}
    (ht : s.thr[t]? = some th) (ho : 1 ≤ owned th) (hnp : pinned s t = false) {ch : Nat}
    (hch : th.coh ≤ ch) (hv : (s.msgAt ch).val = 0) : s.msgAt ch = s.last := by
  unfold State.msgAt at hv ⊢
  cases hm : s.hist[ch]? with
  | none => rfl
  | some m =>
    exfalso
    rw [hm] at hv
    rcases h.J ch m hm hv t th ht ho with h1 | ⟨w, wh, hw, hmem, _⟩
    · omega
    · exact not_mem_of_not_pinned hnp hw hmem

theorem hist_append_cases {hist : List Msg} {last m : Msg} {i : Nat}
    (hi : (hist ++ [last])[i]? = some m) :
    (hist[i]? = some m ∧ i < hist.length) ∨ (i = hist.length ∧ m = last) := by
  rcases Nat.lt_or_ge i hist.length with hlt | hge
  · rw [List.getElem?_append_left hlt] at hi
    exact Or.inl ⟨hi, hlt⟩
  · rw [List.getElem?_append_right hge] at hi
    cases hk : i - hist.length with
    | zero => rw [hk] at hi; exact Or.inr ⟨by omega, (Option.some.inj hi).symm⟩
    | succ k => rw [hk] at hi; cases hi

section frame
variable {c : Cfg} {s s' : State} {t : Nat} {th th' : Thread} (h : Wf1 c s)
  (ht : s.thr[t]? = some th) (hthr : s'.thr = s.thr.set t th')
include h ht hthr

theorem Wf1.J_set (hhist : s'.hist = s.hist) (hown : 1 ≤ owned th' → 1 ≤ owned th) (hcoh : th.coh ≤ th'.coh)
    (hrefs : ∀ x, x ∈ th.refs → x ∈ th'.refs ∨ ∀ xh, s.thr[x]? = some xh → th.coh ≤ xh.coh) :
    ∀ (i : Nat) m, s'.hist[i]? = some m → m.val = 0 →
      ∀ (u : Nat) uh, s'.thr[u]? = some uh → 1 ≤ owned uh →
        i < uh.coh ∨ ∃ (w : Nat) (wh : Thread), s'.thr[w]? = some wh ∧ u ∈ wh.refs ∧ i < wh.coh := by
  intro i m hi hz u uh hu ho
  rw [hhist] at hi
  rw [hthr] at hu ⊢
  have hold : ∃ uh0, s.thr[u]? = some uh0 ∧ uh0.coh ≤ uh.coh ∧ 1 ≤ owned uh0 := by
    rcases get_set_cases ht hu with ⟨rfl, rfl⟩ | ⟨_, hu'⟩
    · exact ⟨th, ht, hcoh, hown ho⟩
    · exact ⟨uh, hu', Nat.le_refl _, ho⟩
  obtain ⟨uh0, hu0, hc0, ho0⟩ := hold
  rcases h.J i m hi hz u uh0 hu0 ho0 with h1 | ⟨w, wh, hw, hm, hlt⟩
  · exact Or.inl (by omega)
  · rcases get_cases ht hw with ⟨rfl, rfl⟩ | hne
    · rcases hrefs u hm with hm' | hle
      · exact Or.inr ⟨w, th', get_set_self ht, hm', by omega⟩
      · have := hle uh0 hu0
        exact Or.inl (by omega)
    · exact Or.inr ⟨w, wh, (List.getElem?_set_ne (Ne.symm hne)).trans hw, hm, hlt⟩

/-- `J` after a read-modify-write by thread `t`, whose coherence index moves past every old
message.  If the message that stops being the last one is a `0`, every holder other than `t`
must have lent its handle to `t`. -/
theorem Wf1.J_rmw (hhist : s'.hist = s.hist ++ [s.last]) (hrefs : th'.refs = th.refs)
    (hcoh : th'.coh = s.hist.length + 1)
    (hnew : s.last.val = 0 → ∀ (u : Nat) uh, u ≠ t → s.thr[u]? = some uh → 1 ≤ owned uh → u ∈ th.refs) :
    ∀ (i : Nat) m, s'.hist[i]? = some m → m.val = 0 →
      ∀ (u : Nat) uh, s'.thr[u]? = some uh → 1 ≤ owned uh →
        i < uh.coh ∨ ∃ (w : Nat) (wh : Thread), s'.thr[w]? = some wh ∧ u ∈ wh.refs ∧ i < wh.coh := by
  intro i m hi hz u uh hu hown1
  rw [hhist] at hi
  rw [hthr] at hu ⊢
  have hself : (s.thr.set t th')[t]? = some th' := get_set_self ht
  rcases get_set_cases ht hu with ⟨rfl, rfl⟩ | ⟨hne, hu'⟩
  · rcases hist_append_cases hi with ⟨_, hlt⟩ | ⟨rfl, _⟩ <;> exact Or.inl (by omega)
  · rcases hist_append_cases hi with ⟨hi', _⟩ | ⟨rfl, rfl⟩
    · exact (h.J i m hi' hz u uh hu' hown1).imp id
        (exists_get_set ht fun hw => ⟨hrefs ▸ hw.1, by omega⟩)
    · exact Or.inr ⟨t, th', hself, hrefs ▸ hnew hz u uh hne hu' hown1, by omega⟩

theorem Wf1.pcok_set (hpin : ∀ (w : Nat) wh, w ≠ t → s.thr[w]? = some wh → pinned s' w = true →
      pinned s w = true ∨ wh.pc = none)
    (hpc : ∀ pc, th'.pc = some pc → PcOk c pc ∧ PcSide (pinned s' t) th' pc) :
    ∀ (u : Nat) uh pc, s'.thr[u]? = some uh → uh.pc = some pc →
      PcOk c pc ∧ PcSide (pinned s' u) uh pc := by
  intro u uh pc hu hp
  rw [hthr] at hu
  rcases get_set_cases ht hu with ⟨rfl, rfl⟩ | ⟨hne, hu'⟩
  · exact hpc pc hp
  · obtain ⟨h1, h2⟩ := h.pcok u uh pc hu' hp
    refine ⟨h1, h2.congr rfl (Nat.le_refl _) rfl fun hf => ?_⟩
    cases hp' : pinned s' u with
    | false => rfl
    | true =>
      rcases hpin u uh hne hu' hp' with h3 | h3
      · rw [hf] at h3; cases h3
      · rw [h3] at hp; cases hp

theorem Wf1.Rf_set (hrefs : ∀ x, x ∈ th'.refs → ∃ xh, s.thr[x]? = some xh ∧ 1 ≤ xh.handles)
    (hhand : 1 ≤ th.handles → pinned s' t = true → 1 ≤ th'.handles) :
    ∀ (w : Nat) wh (u : Nat), s'.thr[w]? = some wh → u ∈ wh.refs →
      ∃ uh, s'.thr[u]? = some uh ∧ 1 ≤ uh.handles := by
  intro w wh u hw hm
  have hpu : pinned s' u = true := (pinned_iff s' u).2 ⟨w, wh, hw, hm⟩
  rw [hthr] at hw ⊢
  have hold : ∃ uh, s.thr[u]? = some uh ∧ 1 ≤ uh.handles := by
    rcases get_set_cases ht hw with ⟨rfl, rfl⟩ | ⟨_, hw'⟩
    · exact hrefs u hm
    · exact h.Rf w wh u hw' hm
  obtain ⟨uh, huh, hh⟩ := hold
  rcases get_cases ht huh with ⟨rfl, rfl⟩ | hne
  · exact ⟨th', get_set_self ht, hhand hh hpu⟩
  · exact ⟨uh, (List.getElem?_set_ne (Ne.symm hne)).trans huh, hh⟩

/-- The clauses about exclusive access (`X`, `Fz`, `L`).  What `t` owns may change only while `t`
can use the buffer (then nothing is freed and nobody else has exclusive access); `t` gains
exclusive access only as the sole owner. -/
theorem Wf1.excl_set (hfreed : s'.freed = s.freed)
    (hown : owned th' = owned th ∨ 1 ≤ owned th ∨ th.refs ≠ [])
    (hexcl : excl th' = true →
      (excl th = true ∧ exclOwn th' = exclOwn th ∧ owned th' = owned th) ∨
      (excl th = false ∧ 1 ≤ owned th ∧ total s = owned th ∧ owned th' = exclOwn th'))
    (hunexcl : excl th = true → excl th' = false → 1 ≤ owned th)
    (hL : total s' = 0 → total s = 0 ∨ excl th' = true) :
    (∀ (u : Nat) uh, s'.thr[u]? = some uh → excl uh = true →
        (∀ (v : Nat) vh, v ≠ u → s'.thr[v]? = some vh → owned vh = 0 ∧ excl vh = false) ∧
        owned uh = exclOwn uh ∧ s'.freed = 0) ∧
    (s'.freed ≤ 1 ∧
      (s'.freed = 1 → ∀ (u : Nat) uh, s'.thr[u]? = some uh → owned uh = 0 ∧ excl uh = false)) ∧
    (total s' = 0 → s'.freed = 1 ∨ ∃ (u : Nat) (uh : Thread), s'.thr[u]? = some uh ∧ excl uh = true) := by
  rw [hfreed, hthr]
  -- while the buffer is freed or another thread has exclusive access, `t` stays out
  have hout : owned th = 0 → excl th = false →
      (s.freed = 1 ∨ ∃ (u : Nat) (uh : Thread), u ≠ t ∧ s.thr[u]? = some uh ∧ excl uh = true) →
      owned th' = 0 ∧ excl th' = false := by
    intro ho hx hbad
    have hno : ¬(1 ≤ owned th ∨ th.refs ≠ []) := by
      intro huse
      obtain ⟨hf, _, hnox⟩ := h.user_facts ht huse
      rcases hbad with hf1 | ⟨u, uh, hne, hu, he⟩
      · omega
      · rw [hnox u uh hne hu] at he; cases he
    refine ⟨hown.elim (fun e => by omega) fun huse => absurd huse hno, ?_⟩
    cases hx' : excl th' with
    | false => rfl
    | true =>
      rcases hexcl hx' with ⟨h', _⟩ | ⟨_, h', _⟩
      · rw [hx] at h'; cases h'
      · omega
  refine ⟨?_, ⟨h.Fz.1, ?_⟩, ?_⟩
  · intro u uh hu he
    rcases get_set_cases ht hu with ⟨rfl, rfl⟩ | ⟨hne, hu'⟩
    · rcases hexcl he with ⟨he', heo, hoo⟩ | ⟨hne', hown1, htot, heo⟩
      · obtain ⟨h1, h2, h3⟩ := h.X _ th ht he'
        refine ⟨fun v vh hv hvt => ?_, by omega, h3⟩
        rw [List.getElem?_set_ne (Ne.symm hv)] at hvt
        exact h1 v vh hv hvt
      · refine ⟨fun v vh hv hvt => ?_, heo, ?_⟩
        · rw [List.getElem?_set_ne (Ne.symm hv)] at hvt
          have hle := owned_add_le_total s v u vh th hv hvt ht
          refine ⟨by omega, ?_⟩
          cases hx' : excl vh with
          | false => rfl
          | true => have := ((h.X v vh hvt hx').1 u th (Ne.symm hv) ht).1; omega
        · rcases Nat.lt_or_ge s.freed 1 with hf | hf
          · omega
          · have := (h.Fz.2 (by have := h.Fz.1; omega) u th ht).1; omega
    · obtain ⟨h1, h2, h3⟩ := h.X u uh hu' he
      refine ⟨fun v vh hv hvt => ?_, h2, h3⟩
      rcases get_set_cases ht hvt with ⟨rfl, rfl⟩ | ⟨_, hv'⟩
      · obtain ⟨ho, hx⟩ := h1 _ th (Ne.symm hne) ht
        exact hout ho hx (Or.inr ⟨u, uh, hne, hu', he⟩)
      · exact h1 v vh hv hv'
  · intro hf u uh hu
    rcases get_set_cases ht hu with ⟨rfl, rfl⟩ | ⟨_, hu'⟩
    · obtain ⟨ho, hx⟩ := h.Fz.2 hf _ th ht
      exact hout ho hx (Or.inl hf)
    · exact h.Fz.2 hf u uh hu'
  · intro h0
    rcases hL h0 with h0' | hx'
    · refine (h.L h0').imp id ?_
      rintro ⟨u, uh, hu, hx⟩
      rcases get_cases ht hu with ⟨rfl, rfl⟩ | hne
      · cases hx' : excl th' with
        | true => exact ⟨u, th', get_set_self ht, hx'⟩
        | false =>
          have := hunexcl hx hx'
          have := owned_le_total s u uh ht
          omega
      · exact ⟨u, uh, (List.getElem?_set_ne (Ne.symm hne)).trans hu, hx⟩
    · exact Or.inr ⟨t, th', get_set_self ht, hx'⟩

end frame

@[simp] theorem acquireInto_handles (th : Thread) (o : Ord) (r : List Nat) :
    (acquireInto th o r).handles = th.handles := by unfold acquireInto; split <;> rfl
@[simp] theorem acquireInto_pc (th : Thread) (o : Ord) (r : List Nat) :
    (acquireInto th o r).pc = th.pc := by unfold acquireInto; split <;> rfl
@[simp] theorem acquireInto_coh (th : Thread) (o : Ord) (r : List Nat) :
    (acquireInto th o r).coh = th.coh := by unfold acquireInto; split <;> rfl
@[simp] theorem acquireInto_res (th : Thread) (o : Ord) (r : List Nat) :
    (acquireInto th o r).res = th.res := by unfold acquireInto; split <;> rfl
@[simp] theorem acquireInto_refs (th : Thread) (o : Ord) (r : List Nat) :
    (acquireInto th o r).refs = th.refs := by unfold acquireInto; split <;> rfl
@[simp] theorem owned_acquireInto (th : Thread) (o : Ord) (r : List Nat) :
    owned (acquireInto th o r) = owned th := by simp [owned]
@[simp] theorem excl_acquireInto (th : Thread) (o : Ord) (r : List Nat) :
    excl (acquireInto th o r) = excl th := by simp [excl]
@[simp] theorem exclOwn_acquireInto (th : Thread) (o : Ord) (r : List Nat) :
    exclOwn (acquireInto th o r) = exclOwn th := by simp [exclOwn]

@[simp] theorem tick_handles (th : Thread) (t : Nat) : (tick th t).handles = th.handles := rfl
@[simp] theorem tick_pc (th : Thread) (t : Nat) : (tick th t).pc = th.pc := rfl
@[simp] theorem tick_coh (th : Thread) (t : Nat) : (tick th t).coh = th.coh := rfl
@[simp] theorem tick_res (th : Thread) (t : Nat) : (tick th t).res = th.res := rfl
@[simp] theorem tick_pend (th : Thread) (t : Nat) : (tick th t).pend = th.pend := rfl
@[simp] theorem tick_refs (th : Thread) (t : Nat) : (tick th t).refs = th.refs := rfl

theorem wrapSub_one {ceil v : Nat} (h : 1 ≤ v) : wrapSub ceil v 1 = v - 1 := if_pos h

theorem wrapAdd_one {ceil v : Nat} (h : v < ceil) : wrapAdd ceil v 1 = v + 1 :=
  if_pos (by omega)

/-! ## Steps of one thread

The conclusions spell the new state out; the payload fields (`acc`, `wr`, `pval`, `race`, `uaf`),
which the counting invariant does not mention, are arbitrary. -/

section one
variable {c : Cfg} {s : State} {t : Nat} {th : Thread} (h : Wf1 c s) (ht : s.thr[t]? = some th)
include h ht

/-- A step that only changes thread `t`'s record (and possibly the payload fields), keeps the
number of handles it owns, and does not newly establish exclusive access except as the sole
owner.  A reference it gains points to a handle of an idle thread; for a reference it drops the
lender's coherence index already covers its own. -/
theorem Wf1.upd {th' : Thread} {a w : List Nat} {p : Nat} {r u : Bool}
    (hown : owned th' = owned th) (hcoh : th.coh ≤ th'.coh)
    (hin : ∀ x, x ∈ th'.refs → x ∈ th.refs ∨
      x ≠ t ∧ ∃ xh, s.thr[x]? = some xh ∧ 1 ≤ xh.handles ∧ xh.pc = none)
    (hout : ∀ x, x ∈ th.refs → x ∈ th'.refs ∨ ∀ xh, s.thr[x]? = some xh → th.coh ≤ xh.coh)
    (hhand : 1 ≤ th.handles → 1 ≤ th'.handles ∨ pinned s t = false)
    (hexcl : excl th' = true → (excl th = true ∧ exclOwn th' = exclOwn th) ∨
        (excl th = false ∧ total s = 1 ∧ owned th = 1 ∧ exclOwn th' = 1))
    (hunexcl : excl th = true → excl th' = false → 1 ≤ owned th)
    (hpc : ∀ pc, th'.pc = some pc → PcOk c pc ∧ PcSide (pinned s t) th' pc) :
    Wf1 c { s with thr := s.thr.set t th', acc := a, wr := w, pval := p, race := r, uaf := u } := by
  generalize hs' : ({ s with thr := s.thr.set t th', acc := a, wr := w, pval := p, race := r, uaf := u } : State) = s'
  have hthr : s'.thr = s.thr.set t th' := by subst hs'; rfl
  have hfreed : s'.freed = s.freed := by subst hs'; rfl
  have htot : total s' = total s := by
    have := total_set ht hthr; omega
  -- pinned threads: the same ones, plus the idle lenders of new references
  have hpin : ∀ x, pinned s' x = true →
      pinned s x = true ∨ x ≠ t ∧ ∃ xh, s.thr[x]? = some xh ∧ xh.pc = none := by
    intro x hp
    rw [pinned_iff, hthr] at hp
    obtain ⟨y, yh, hy, hm⟩ := hp
    rcases get_set_cases ht hy with ⟨rfl, rfl⟩ | ⟨_, hy'⟩
    · exact (hin x hm).imp (fun hm' => (pinned_iff s x).2 ⟨_, th, ht, hm'⟩)
        fun ⟨hne, xh, hx, _, hi⟩ => ⟨hne, xh, hx, hi⟩
    · exact Or.inl ((pinned_iff s x).2 ⟨y, yh, hy', hm⟩)
  have hpint : pinned s t = false → pinned s' t = false := by
    intro hf
    cases hp : pinned s' t with
    | false => rfl
    | true =>
      rcases hpin t hp with h3 | ⟨h3, _⟩
      · rw [hf] at h3; cases h3
      · exact absurd rfl h3
  obtain ⟨hX, hFz, hL⟩ := h.excl_set ht hthr hfreed (hown := Or.inl hown)
    (hexcl := fun he => (hexcl he).imp (fun ⟨a, b⟩ => ⟨a, b, hown⟩)
      fun ⟨a, b, d, e⟩ => ⟨a, by omega, by omega, by omega⟩)
    (hunexcl := hunexcl) (hL := fun h0 => Or.inl (htot ▸ h0))
  refine ⟨?_, ?_, ?_, ?_, ?_, hX, hFz, hL⟩
  · rw [htot]; subst hs'; exact h.track
  · rw [htot]; subst hs'; exact h.ceil
  · exact h.J_set ht hthr (by subst hs'; rfl) (fun h1 => hown ▸ h1) hcoh hout
  · refine h.pcok_set ht hthr (fun x xh _ hx hp => (hpin x hp).imp id fun ⟨_, xh', hx', hi⟩ => ?_)
      fun pc hp => ⟨(hpc pc hp).1, (hpc pc hp).2.congr rfl (Nat.le_refl _) rfl hpint⟩
    rw [hx] at hx'
    exact Option.some.inj hx' ▸ hi
  · refine h.Rf_set ht hthr (fun x hx => ?_) fun hh hp => ?_
    · rcases hin x hx with hx' | ⟨_, xh, hxh, hh, _⟩
      · exact h.Rf t th x ht hx'
      · exact ⟨xh, hxh, hh⟩
    · rcases hhand hh with h1 | h1
      · exact h1
      · rw [hpint h1] at hp; cases hp

theorem Wf1.retStep {th' : Thread} {a w : List Nat} {p : Nat} {r u : Bool}
    (hown : owned th' = owned th) (hcoh : th'.coh = th.coh) (hpc : th'.pc = none)
    (hrefs : th'.refs = th.refs) (hhand : th.handles ≤ th'.handles)
    (hunexcl : excl th = true → 1 ≤ owned th) :
    Wf1 c { s with thr := s.thr.set t th', acc := a, wr := w, pval := p, race := r, uaf := u } :=
  h.upd ht hown (hcoh := by omega) (hin := fun x hx => Or.inl (hrefs ▸ hx))
    (hout := fun x hx => Or.inl (hrefs ▸ hx)) (hhand := fun hh => Or.inl (by omega))
    (hexcl := not_excl_idle hpc) (hunexcl := fun he _ => hunexcl he) (hpc := fun _ => no_pc_idle hpc)

/-- The free (by the dropper whose decrement overflowed, or by `unwrap`). -/
theorem Wf1.free (hx : excl th = true) {th' : Thread} {a w : List Nat} {p : Nat} {r u : Bool}
    (hown : owned th' = 0) (hpc : th'.pc = none) (hrefs : th'.refs = th.refs) :
    Wf1 c { s with thr := s.thr.set t th', freed := s.freed + 1, acc := a, wr := w, pval := p,
                   race := r, uaf := u } := by
  generalize hs' : ({ s with thr := s.thr.set t th', freed := s.freed + 1, acc := a, wr := w, pval := p, race := r, uaf := u } : State) = s'
  have hthr : s'.thr = s.thr.set t th' := by subst hs'; rfl
  have hfreed : s'.freed = s.freed + 1 := by subst hs'; rfl
  obtain ⟨h1, h2, h3⟩ := h.X t th ht hx
  have hnoref : ∀ (w : Nat) wh, s'.thr[w]? = some wh → wh.refs = [] := by
    intro w wh hw
    rw [hthr] at hw
    rcases get_set_cases ht hw with ⟨rfl, rfl⟩ | ⟨_, hw'⟩
    · rw [hrefs]; exact h.excl_no_refs ht hx ht
    · exact h.excl_no_refs ht hx hw'
  have hall : ∀ (u : Nat) uh, s'.thr[u]? = some uh → owned uh = 0 ∧ excl uh = false := by
    intro u uh hu
    rw [hthr] at hu
    rcases get_set_cases ht hu with ⟨rfl, rfl⟩ | ⟨hne, hu'⟩
    · exact ⟨hown, excl_idle hpc⟩
    · exact h1 u uh hne hu'
  have htot : total s' = 0 := (total_eq_zero_iff s').2 fun u uh hu => (hall u uh hu).1
  refine ⟨by omega, by omega, ?_, ?_, ?_, ?_, ⟨by omega, fun _ => hall⟩, fun _ => Or.inl (by omega)⟩
  · intro i m _ _ u uh hu hown1
    have := (hall u uh hu).1; omega
  · exact h.pcok_set ht hthr (fun w _ _ _ hp => Or.inl (pinned_set_same ht hthr hrefs w ▸ hp))
      fun pc hp => by rw [hpc] at hp; cases hp
  · intro w wh u hw hm
    rw [hnoref w wh hw] at hm; cases hm
  · intro u uh hu he
    rw [(hall u uh hu).2] at he; cases he

theorem Wf1.rmw (huse : 1 ≤ owned th ∨ th.refs ≠ []) (hx : excl th = false) (o : Ord) (nv : Nat)
    {pc' : Pc} (hpc : PcOk c pc' ∧ PcSide (pinned s t) th pc')
    (hnew : s.last.val = 0 → ∀ (u : Nat) uh, u ≠ t → s.thr[u]? = some uh → 1 ≤ owned uh → u ∈ th.refs)
    (htrack : ∀ n, n + owned th = total s + owned { th with pc := some pc' } → 1 ≤ n →
      nv + 1 = n ∧ nv ≤ c.ceil)
    (hexcl : excl { th with pc := some pc' } = true → total s = owned th ∧
      owned { th with pc := some pc' } = exclOwn { th with pc := some pc' })
    (hL : total s + owned { th with pc := some pc' } = owned th →
      excl { th with pc := some pc' } = true) :
    Wf1 c (doRmw s t th o nv pc') := by
  generalize hth' : acquireInto { th with coh := s.hist.length + 1, pc := some pc' } o s.last.rel = th'
  have hthr : (doRmw s t th o nv pc').thr = s.thr.set t th' := by subst hth'; rfl
  have hrefs : th'.refs = th.refs := by subst hth'; simp
  have hhand : th'.handles = th.handles := by subst hth'; simp
  have hown' : owned th' = owned { th with pc := some pc' } := by
    subst hth'; exact (owned_acquireInto _ _ _).trans (owned_congr rfl rfl)
  have hexcl' : excl th' = excl { th with pc := some pc' } := by
    subst hth'; exact (excl_acquireInto _ _ _).trans (excl_congr rfl)
  have hxo' : exclOwn th' = exclOwn { th with pc := some pc' } := by
    subst hth'; exact exclOwn_acquireInto _ _ _
  have htot := total_set ht hthr
  obtain ⟨_, htot1, _⟩ := h.user_facts ht huse
  have hpin : ∀ u, pinned (doRmw s t th o nv pc') u = pinned s u := pinned_set_same ht hthr hrefs
  obtain ⟨hX, hFz, hL'⟩ := h.excl_set ht hthr rfl (hown := Or.inr huse)
    (hexcl := fun he => by
      have := hexcl (hexcl' ▸ he)
      exact Or.inr ⟨hx, by omega, this.1, by rw [hown', hxo']; exact this.2⟩)
    (hunexcl := fun he => by rw [hx] at he; cases he)
    (hL := fun h0 => Or.inr (by rw [hexcl']; exact hL (by omega)))
  refine ⟨fun h1 => (htrack _ (hown' ▸ htot) h1).1, fun h1 => (htrack _ (hown' ▸ htot) h1).2,
    h.J_rmw ht hthr rfl hrefs (by subst hth'; simp) hnew, ?_, ?_, hX, hFz, hL'⟩
  · refine h.pcok_set ht hthr (fun w _ _ _ hp => Or.inl (hpin w ▸ hp)) fun pc hp => ?_
    obtain rfl : pc' = pc := by subst hth'; simpa using hp
    exact ⟨hpc.1, hpin t ▸ hpc.2.congr rfl (Nat.le_of_eq hhand.symm) hrefs id⟩
  · exact h.Rf_set ht hthr (fun x hx => h.Rf t th x ht (hrefs ▸ hx)) fun hh _ => hhand ▸ hh

theorem Wf1.casSucc {code : List AStep} {old : Nat}
    (hpc : th.pc = some ⟨.clone, code, old⟩) (hcode : localRet code = none)
    (hold : s.last.val = old) (hb : old < c.ceil) (o : Ord) :
    Wf1 c (doRmw s t th o (wrapAdd c.ceil old 1) ⟨.clone, [.ret .done], old⟩) := by
  have hown : owned th = th.handles := by simp [owned, inflight, hpc, hcode]
  have hown' : owned { th with pc := some ⟨.clone, [.ret .done], old⟩ } = th.handles + 1 := rfl
  have hside := (h.pcok t th _ ht hpc).2
  have huse := uses_of_handles (hside.1 (Or.inl rfl))
  obtain ⟨_, htot1, _⟩ := h.user_facts ht huse
  have htr := h.track htot1
  refine h.rmw ht huse (hx := by simp [excl, hpc]) o _
    (hpc := ⟨Or.inr (Or.inr (Or.inl rfl)), hside.congr rfl (Nat.le_refl _) rfl id⟩)
    (hnew := ?_) (htrack := ?_) (hexcl := ?_) (hL := ?_)
  · -- a `0` is replaced: the one handle is `u`'s, and `t` clones through a reference to it
    intro hv u uh hne hu ho
    have hadd := owned_add_le_total s t u th uh (Ne.symm hne) ht hu
    rcases hside.1 (Or.inl rfl) with h1 | h1
    · omega
    · obtain ⟨l, hl⟩ := List.exists_mem_of_ne_nil _ h1
      obtain ⟨lh, hlh, hh⟩ := h.Rf t th l ht hl
      rcases get_cases hu hlh with ⟨rfl, _⟩ | hlu
      · exact hl
      · have := owned_add_le_total s l u lh uh hlu hlh hu
        have := handles_le_owned lh
        omega
  · intro n hn _
    rw [wrapAdd_one hb]; omega
  · intro he; cases he
  · intro h0; omega

end one

theorem Wf1.rmwSub {c : Cfg} {s : State} (h : Wf1 c s) {t : Nat} {th : Thread}
    (ht : s.thr[t]? = some th) {code : List AStep} {old : Nat}
    (hpc : th.pc = some ⟨.drop, code, old⟩) (hcode : localRet code = none)
    (o : Ord) (code' : List AStep)
    (hcode' : localRet code' = some (if s.last.val = 0 then Ret.overflow else Ret.done)) :
    Wf1 c (doRmw s t th o (wrapSub c.ceil s.last.val 1) ⟨.drop, code', s.last.val⟩) := by
  have hown : owned th = th.handles + 1 := by simp [owned, inflight, hpc, hcode]
  have hle := owned_le_total s t th ht
  have htr := h.track (by omega)
  have hce := h.ceil (by omega)
  have hside := (h.pcok t th _ ht hpc).2
  have hret : localRet code' ≠ none := by rw [hcode']; simp
  have hown' : owned { th with pc := some ⟨.drop, code', s.last.val⟩ } = th.handles := by
    simp [owned, inflight, hret]
  have hexcl' : excl { th with pc := some ⟨.drop, code', s.last.val⟩ } = decide (s.last.val = 0) := by
    simp only [excl]
    rw [hcode']
    by_cases hv : s.last.val = 0 <;> simp [hv]
  refine h.rmw ht (huse := Or.inl (by omega)) (hx := by simp [excl, hpc, hcode]) o _
    (hpc := ⟨?_, hside.congr rfl (Nat.le_refl _) rfl id⟩)
    (hnew := ?_) (htrack := ?_) (hexcl := ?_) (hL := ?_)
  · by_cases hv : s.last.val = 0
    · exact Or.inr (Or.inl (by simp [hcode', hv]))
    · exact Or.inr (Or.inr (by simp [hcode', hv]))
  · -- a `0` is replaced: `t` was the only holder
    intro hv u uh hne hu ho
    have := owned_add_le_total s t u th uh (Ne.symm hne) ht hu
    omega
  · intro n hn h1
    rw [hown'] at hn
    rw [wrapSub_one (by omega)]; omega
  · intro he
    rw [hexcl'] at he
    have hv : s.last.val = 0 := of_decide_eq_true he
    rw [hown']
    exact ⟨by omega, show th.handles = 0 by omega⟩
  · intro h0
    rw [hown'] at h0
    rw [hexcl']
    exact decide_eq_true (by omega)

theorem pinned_set2_same {s s' : State} {t u : Nat} {th uh th' uh' : Thread}
    (ht : s.thr[t]? = some th) (hu : s.thr[u]? = some uh) (htu : t ≠ u)
    (hthr : s'.thr = (s.thr.set t th').set u uh') (hrt : th'.refs = th.refs)
    (hru : uh'.refs = uh.refs) (x : Nat) : pinned s' x = pinned s x :=
  (pinned_set_same (s := { s with thr := s.thr.set t th' }) (th := uh)
    ((List.getElem?_set_ne htu).trans hu) hthr hru x).trans (pinned_set_same ht rfl hrt x)

theorem Wf1.send {c : Cfg} {s : State} (h : Wf1 c s) {t u : Nat} {th uh : Thread}
    (ht : s.thr[t]? = some th) (hu : s.thr[u]? = some uh) (htu : t ≠ u)
    (hpt : th.pc = none) (hpu : uh.pc = none) (hh : 1 ≤ th.handles) (hnp : pinned s t = false)
    (v : List Nat)
    (th' uh' : Thread) (hth' : { th with handles := th.handles - 1 } = th')
    (huh' : { uh with handles := uh.handles + 1, view := v, coh := max uh.coh th.coh } = uh') :
    Wf1 c { s with thr := (s.thr.set t th').set u uh' } := by
  have hownt : owned th = th.handles := owned_idle hpt
  have hownu : owned uh = uh.handles := owned_idle hpu
  have hownt' : owned th' = th.handles - 1 := by subst hth'; exact owned_idle hpt
  have hownu' : owned uh' = uh.handles + 1 := by subst huh'; exact owned_idle hpu
  have hpt' : th'.pc = none := by subst hth'; exact hpt
  have hpu' : uh'.pc = none := by subst huh'; exact hpu
  have hrt : th'.refs = th.refs := by subst hth'; rfl
  have hru : uh'.refs = uh.refs := by subst huh'; rfl
  have hct : th'.coh = th.coh := by subst hth'; rfl
  have hcu : uh'.coh = max uh.coh th.coh := by subst huh'; rfl
  obtain ⟨hst, hsu⟩ := get_set2_self (x' := th') (y' := uh') ht hu htu
  have hlook := fun (w : Nat) wh => get_set2_cases (w := w) (z := wh) (x' := th') (y' := uh') ht hu htu
  have htot : total { s with thr := (s.thr.set t th').set u uh' } = total s := by
    have := total_set2 (s' := { s with thr := (s.thr.set t th').set u uh' }) ht hu htu rfl
    omega
  obtain ⟨hfz, _, hnox⟩ := h.user_facts ht (Or.inl (by omega))
  have hpin : ∀ x, pinned { s with thr := (s.thr.set t th').set u uh' } x = pinned s x :=
    pinned_set2_same ht hu htu rfl hrt hru
  refine ⟨?_, ?_, ?_, ?_, ?_, ?_, ⟨h.Fz.1, fun hf => ?_⟩, ?_⟩
  · rw [htot]; exact h.track
  · rw [htot]; exact h.ceil
  · intro i m hi hz w wh hw hown1
    -- witnesses survive (their coherence index can only grow)
    have hwit := exists_get_set2 (x' := th') (y' := uh') (P := fun _ xh => w ∈ xh.refs ∧ i < xh.coh)
      ht hu htu (fun hx => ⟨hrt ▸ hx.1, by omega⟩) (fun hx => ⟨hru ▸ hx.1, by omega⟩)
    rcases hlook w wh hw with ⟨rfl, rfl⟩ | ⟨rfl, rfl⟩ | ⟨_, _, hw'⟩
    · -- the receiver: through the sender, which is not pinned
      rcases h.J i m hi hz t th ht (by omega) with h1 | ⟨x, xh, hx, hm, _⟩
      · exact Or.inl (by omega)
      · exact absurd hm (not_mem_of_not_pinned hnp hx)
    · exact (h.J i m hi hz _ th ht (by omega)).imp (by omega) hwit
    · exact (h.J i m hi hz w wh hw' hown1).imp id hwit
  · intro w wh pc hw hp
    rw [hpin]
    rcases hlook w wh hw with ⟨rfl, rfl⟩ | ⟨rfl, rfl⟩ | ⟨_, _, hw'⟩
    · rw [hpu'] at hp; cases hp
    · rw [hpt'] at hp; cases hp
    · exact h.pcok w wh pc hw' hp
  · intro w wh x hw hm
    have hold : ∃ xh, s.thr[x]? = some xh ∧ 1 ≤ xh.handles := by
      rcases hlook w wh hw with ⟨rfl, rfl⟩ | ⟨rfl, rfl⟩ | ⟨_, _, hw'⟩
      · exact h.Rf _ uh x hu (hru ▸ hm)
      · exact h.Rf _ th x ht (hrt ▸ hm)
      · exact h.Rf w wh x hw' hm
    have hpx : pinned s x = true := by
      rw [← hpin, pinned_iff]; exact ⟨w, wh, hw, hm⟩
    obtain ⟨xh, hxh, hh'⟩ := hold
    rcases get_cases ht hxh with ⟨rfl, rfl⟩ | hxt
    · rw [hnp] at hpx; cases hpx
    · rcases get_cases hu hxh with ⟨rfl, rfl⟩ | hxu
      · exact ⟨uh', hsu, by subst huh'; exact Nat.le_succ_of_le hh'⟩
      · exact ⟨xh, by rw [get_set2_ne hxt hxu]; exact hxh, hh'⟩
  · intro w wh hw he
    rcases hlook w wh hw with ⟨rfl, rfl⟩ | ⟨rfl, rfl⟩ | ⟨hwt, _, hw'⟩
    · rw [excl_idle hpu'] at he; cases he
    · rw [excl_idle hpt'] at he; cases he
    · rw [hnox w wh hwt hw'] at he; cases he
  · have : s.freed = 1 := hf
    omega
  · rw [htot]; intro h0; omega

theorem Wf1.borrow {c : Cfg} {s : State} (h : Wf1 c s) {t u : Nat} {th uh : Thread}
    (ht : s.thr[t]? = some th) (hu : s.thr[u]? = some uh) (htu : t ≠ u)
    (hpt : th.pc = none) (hpu : uh.pc = none) (hh : 1 ≤ uh.handles) (v : List Nat)
    (th' : Thread) (hth' : { th with refs := u :: th.refs, view := v, coh := max th.coh uh.coh } = th') :
    Wf1 c { s with thr := s.thr.set t th' } := by
  subst hth'
  exact h.upd ht (hown := owned_congr rfl rfl) (hcoh := Nat.le_max_left _ _)
    (hin := fun x hx => (List.mem_cons.1 hx).elim
      (fun e => Or.inr ⟨e ▸ Ne.symm htu, uh, e ▸ hu, hh, hpu⟩) Or.inl)
    (hout := fun x hx => Or.inl (List.mem_cons_of_mem _ hx)) (hhand := Or.inl)
    (hexcl := not_excl_idle (th := th) hpt) (hunexcl := not_excl_idle hpt)
    (hpc := fun _ => no_pc_idle (th := th) hpt)

theorem Wf1.dropRef {c : Cfg} {s : State} (h : Wf1 c s) {t u : Nat} {th uh : Thread}
    (ht : s.thr[t]? = some th) (hu : s.thr[u]? = some uh) (hpt : th.pc = none)
    (hcoh : th.coh ≤ uh.coh) (th' : Thread) (hth' : { th with refs := th.refs.erase u } = th') :
    Wf1 c { s with thr := s.thr.set t th' } := by
  subst hth'
  refine h.upd ht (hown := owned_congr rfl rfl) (hcoh := Nat.le_refl _)
    (hin := fun x hx => Or.inl (List.mem_of_mem_erase hx)) (hout := fun x hx => ?_) (hhand := Or.inl)
    (hexcl := not_excl_idle (th := th) hpt) (hunexcl := not_excl_idle hpt)
    (hpc := fun _ => no_pc_idle (th := th) hpt)
  by_cases hxu : x = u
  · subst hxu
    exact Or.inr fun xh hxh => by rw [hu] at hxh; exact Option.some.inj hxh ▸ hcoh
  · exact Or.inl ((List.mem_erase_of_ne hxu).2 hx)

theorem Wf1.unborrow {c : Cfg} {s : State} (h : Wf1 c s) {t u : Nat} {th uh : Thread}
    (ht : s.thr[t]? = some th) (hu : s.thr[u]? = some uh) (htu : t ≠ u)
    (hpt : th.pc = none) (hpu : uh.pc = none) (hmem : u ∈ th.refs) (v : List Nat)
    (th' uh' : Thread) (hth' : { th with refs := th.refs.erase u } = th')
    (huh' : { uh with view := v, coh := max uh.coh th.coh } = uh') :
    Wf1 c { s with thr := (s.thr.set t th').set u uh' } := by
  subst hth' huh'
  have h1 : Wf1 c { s with thr := s.thr.set u { uh with view := v, coh := max uh.coh th.coh } } :=
    h.upd hu (hown := owned_congr rfl rfl) (hcoh := Nat.le_max_left _ _) (hin := fun _ => Or.inl)
      (hout := fun _ => Or.inl) (hhand := Or.inl) (hexcl := not_excl_idle (th := uh) hpu)
      (hunexcl := not_excl_idle hpu) (hpc := fun _ => no_pc_idle (th := uh) hpu)
  rw [List.set_comm _ _ htu]
  exact h1.dropRef (t := t) ((List.getElem?_set_ne (Ne.symm htu)).trans ht) (get_set_self hu) hpt
    (Nat.le_max_right _ _) _ rfl

theorem PcOk.entry {c : Cfg} {k : Kont} {code : List AStep} {old : Nat}
    (hok : PcOk c ⟨k, code, old⟩) (hl : localRet code = none) :
    (k = .drop ∧ code = c.proto.decr) ∨
    (k = .clone ∧ (code = c.proto.incr ∨ code = c.proto.incr.tail)) ∨
    ((k = .mutate ∨ k = .unwrap) ∧ code = c.proto.isUnique) ∨ (k = .count ∧ code = c.proto.get) := by
  cases k <;> simp only [PcOk, hl, reduceCtorEq, or_false, exists_false] at hok
  · exact Or.inr (Or.inl ⟨rfl, hok⟩)
  · exact Or.inl ⟨rfl, hok⟩
  · exact Or.inr (Or.inr (Or.inl ⟨Or.inl rfl, hok⟩))
  · exact Or.inr (Or.inr (Or.inl ⟨Or.inr rfl, hok⟩))
  · exact Or.inr (Or.inr (Or.inr ⟨rfl, hok⟩))

theorem PcOk.fence_rest {c : Cfg} (sh : Shape c) {k : Kont} {o : Ord} {rest : List AStep} {old : Nat}
    (hok : PcOk c ⟨k, .simple (.fence o) :: rest, old⟩) :
    PcOk c ⟨k, rest, old⟩ ∧ ∃ r, localRet rest = some r := by
  have hl : localRet (.simple (.fence o) :: rest) = localRet rest := rfl
  cases k <;>
    simp only [PcOk, sh.hdecr, sh.hincr, sh.huniq, sh.hget, List.tail, hl, List.cons.injEq,
      reduceCtorEq, false_and, false_or] at hok ⊢
  · rcases hok with h1 | h1 <;> exact ⟨by simp [h1], _, h1⟩
  · rcases hok with h1 | h1 <;> exact ⟨by simp [h1], _, h1⟩
  all_goals
    obtain ⟨b, h1⟩ := hok
    exact ⟨Or.inr ⟨b, h1⟩, _, h1⟩

end HipVerif.Model.Conc
