/-
Assembly: every operation of the Core state machine is `StepOk` against the std-side
specification (`step_ok`); preservation of the invariant, refinement and preservation of the
lineage invariant are its three readings.  Caller memory is never touched (`srcs_step`), whatever
the state.
-/
import HipVerif.Lemmas.CoreOpsSlice

namespace HipVerif.Core
open HipVerif.Spec.Std HipVerif.Core.A

theorem step_ok (cfg : Cfg) (s : State) (op : Op) (w : Wf cfg s) (hok : OpOk s op) :
    StepOk cfg s (step cfg s op) (Spec.Std.step cfg.icap s.srcs (abs s) op (retFlag (step cfg s op).2.ret)) := by
  cases op with
  | new d => exact ok_new d w _
  | fromSlice d bs => exact ok_fromSlice d bs w _
  | fromVec d bs cap => exact ok_fromVec d bs cap w _
  | borrowed d src off len => exact ok_borrowed d src off len w _
  | withCapacity d n => exact ok_withCapacity d n w _
  | inline d bs => exact ok_inline d bs w _
  | tryInline d bs => exact ok_tryInline d bs w _
  | clone h d => exact ok_clone h d w _
  | slice h d sb eb => exact ok_slice h d sb eb w hok _
  | trySlice h d sb eb => exact ok_trySlice h d sb eb w hok _
  | trySliceRef h d rn rel plen => exact ok_trySliceRef h d rn rel plen w hok _
  | sliceRef h d rn rel plen => exact ok_sliceRef h d rn rel plen w hok _
  | adopt h d off len => exact ok_adopt h d off len w _
  | pushSlice h bs => exact ok_pushSlice h bs w _
  | pop h => exact ok_pop h w _
  | truncate h n => exact ok_truncate h n w _
  | clear h => exact ok_clear h w _
  | shrinkTo h n => exact ok_shrinkTo h n w _
  | shrinkToFit h => exact ok_shrinkToFit h w _
  | asMutWrite h i b => exact ok_asMutWrite h i b w _ rfl
  | toMutWrite h i b => exact ok_toMutWrite h i b w _
  | makeAsciiLower h => exact ok_makeAsciiLower h w _
  | makeAsciiUpper h => exact ok_makeAsciiUpper h w _
  | toAsciiLower h d => exact ok_toAsciiLower h d w _
  | toAsciiUpper h d => exact ok_toAsciiUpper h d w _
  | mutate h sc => exact ok_mutate h sc w _
  | mutateLeak h sc => exact ok_mutateLeak h sc w _
  | intoOwned h d => exact ok_intoOwned h d w _
  | intoVec h => exact ok_intoVec h w _ rfl
  | toVec h => exact ok_toVec h w _
  | intoBorrowed h => exact ok_intoBorrowed h w _ rfl
  | «repeat» h d n => exact ok_repeat h d n w _
  | spareCapacity h => exact ok_spareCapacity h w _
  | drop h => exact ok_drop h w _

/-- the invariants are kept by every operation, whatever its arguments -/
theorem keeps_step (cfg : Cfg) (s : State) (op : Op) (w : Wf cfg s) :
    Wf cfg (step cfg s op).1 ∧ (NormOk cfg s → NormOk cfg (step cfg s op).1) := by
  cases op with
  | slice h d sb eb => exact keeps_slice h d sb eb w
  | trySlice h d sb eb => exact keeps_trySlice h d sb eb w
  | trySliceRef h d rn rel plen => exact keeps_trySliceRef h d rn rel plen w
  | sliceRef h d rn rel plen => exact keeps_sliceRef h d rn rel plen w
  | _ => exact ⟨(step_ok cfg s _ w (by trivial)).wf, (step_ok cfg s _ w (by trivial)).norm⟩

theorem wf_step (cfg : Cfg) (s : State) (op : Op) (w : Wf cfg s) : Wf cfg (step cfg s op).1 :=
  (keeps_step cfg s op w).1

theorem norm_step (cfg : Cfg) (s : State) (op : Op) (w : Wf cfg s) (n : NormOk cfg s) :
    NormOk cfg (step cfg s op).1 :=
  (keeps_step cfg s op w).2 n

theorem refines (cfg : Cfg) (s : State) (op : Op) (w : Wf cfg s) (hok : OpOk s op) :
    Spec.Std.step cfg.icap s.srcs (abs s) op (retFlag (step cfg s op).2.ret) =
      (abs (step cfg s op).1, eraseRet (step cfg s op).2.ret) :=
  (step_ok cfg s op w hok).refines

/-! ### caller memory is never written (no invariant needed) -/

variable {cfg : Cfg} {s : State}

theorem rangeInstall_srcs (hd : Handle) (d a b : Nat) (ret : Ret) :
    (rangeInstall cfg s hd d a b ret).1.srcs = s.srcs := by
  rw [rangeInstall_def]
  split
  · rfl
  · exact rangeRepr_srcs ..

theorem asciiInstall_srcs (hd : Handle) (d : Nat) (g : UInt8 → UInt8) :
    (asciiInstall cfg s hd d g).1.srcs = s.srcs := by
  exact (writeView_srcs ..).trans ((makeUnique_srcs ..).trans (cloneRepr_srcs ..))

theorem uniqueWrite_srcs (h : Nat) (hd : Handle) (f : List UInt8 → List UInt8) :
    (uniqueWrite cfg s h hd f).1.srcs = s.srcs := by
  exact (writeView_srcs ..).trans (makeUnique_srcs ..)

theorem truncateOp_srcs {h : Nat} {hd : Handle} (hg : getH s h = some hd) (n : Nat) (ret : Ret) :
    (truncateOp cfg s h hd n ret).1.srcs = s.srcs := by
  rw [truncateOp_eq hg]
  split
  · cases hd.repr with
    | inline bs => rfl
    | borrowed a b c => rfl
    | heap o pb off len =>
      simp only
      split
      · exact release_srcs ..
      · rfl
  · rfl

theorem shrinkToOp_srcs (h : Nat) (hd : Handle) (n : Nat) : (shrinkToOp cfg s h hd n).1.srcs = s.srcs := by
  unfold shrinkToOp
  cases hd.repr with
  | inline bs => rfl
  | borrowed a b c => rfl
  | heap o pb off len =>
    simp only
    split
    · cases getI s o with
      | none => rfl
      | some x =>
        simp only
        split
        · rfl
        · exact release_srcs ..
    · exact release_srcs ..

theorem pushRealloc_srcs (h : Nat) (hd : Handle) (bs : List UInt8) :
    (pushRealloc cfg s h hd bs).1.srcs = s.srcs := by
  unfold pushRealloc
  rw [dropIf_eq]
  split <;> exact dropRepr_srcs ..

theorem pushInPlace_srcs {h : Nat} {hd : Handle} {bs : List UInt8} {r : State × Out}
    (hp : pushInPlace cfg s h hd bs = some r) : r.1.srcs = s.srcs := by
  unfold pushInPlace at hp
  cases hr : hd.repr with
  | inline b0 => rw [hr] at hp; cases hp
  | borrowed a b c => rw [hr] at hp; cases hp
  | heap o pb off len =>
    rw [hr] at hp
    cases hx : getI s o with
    | none => simp only [hx] at hp; cases hp
    | some x =>
      simp only [hx] at hp
      split at hp
      · split at hp <;> (cases hp; rfl)
      · cases hp

theorem stealVec_srcs {h : Nat} {hd : Handle} {r : State × Out}
    (hs : stealVec cfg s h hd = some r) : r.1.srcs = s.srcs := by
  unfold stealVec at hs
  cases hr : hd.repr with
  | inline b0 => rw [hr] at hs; cases hs
  | borrowed a b c => rw [hr] at hs; cases hs
  | heap o pb off len =>
    rw [hr] at hs
    cases hx : getI s o with
    | none => simp only [hx] at hs; cases hs
    | some x =>
      simp only [hx] at hs
      split at hs
      · cases hs; rfl
      · cases hs

theorem onSlot_srcs {f : Handle → State × Out} (h : Nat)
    (k : ∀ hd, getH s h = some hd → (f hd).1.srcs = s.srcs) : (onSlot s h f).1.srcs = s.srcs := by
  unfold onSlot
  cases hg : getH s h with
  | none => rfl
  | some hd => exact k hd hg

theorem srcs_step (cfg : Cfg) (s : State) (op : Op) : (step cfg s op).1.srcs = s.srcs := by
  cases op with
  | new d => rw [step_new]; split <;> rfl
  | fromSlice d bs =>
    rw [step_fromSlice]; split
    · exact fromSliceRepr_srcs ..
    · rfl
  | fromVec d bs cap =>
    rw [step_fromVec]; split
    · exact fromVecRepr_srcs ..
    · rfl
  | borrowed d src off len => rw [step_borrowed]; split <;> rfl
  | withCapacity d n =>
    rw [step_withCapacity]; split
    · split <;> rfl
    · rfl
  | inline d bs =>
    rw [step_inline]; split
    · split <;> rfl
    · rfl
  | tryInline d bs =>
    rw [step_tryInline]; split
    · split <;> rfl
    · rfl
  | clone h d =>
    rw [step_clone]; refine onSlot_srcs h fun hd _ => ?_
    split
    · exact cloneRepr_srcs ..
    · rfl
  | slice h d sb eb =>
    rw [step_slice]; refine onSlot_srcs h fun hd _ => ?_
    split
    · split
      · exact rangeInstall_srcs ..
      · rfl
    · rfl
  | trySlice h d sb eb =>
    rw [step_trySlice]; refine onSlot_srcs h fun hd _ => ?_
    split
    · split
      · exact rangeInstall_srcs ..
      · rfl
      · rfl
    · rfl
  | trySliceRef h d rn rel plen =>
    rw [step_trySliceRef]; refine onSlot_srcs h fun hd _ => ?_
    split
    · split
      · exact rangeInstall_srcs ..
      · rfl
      · rfl
    · rfl
  | sliceRef h d rn rel plen =>
    rw [step_sliceRef]; refine onSlot_srcs h fun hd _ => ?_
    split
    · split
      · exact rangeInstall_srcs ..
      · rfl
    · rfl
  | adopt h d off len =>
    rw [step_adopt]; refine onSlot_srcs h fun hd _ => ?_
    split
    · exact rangeInstall_srcs ..
    · rfl
  | pushSlice h bs =>
    rw [step_pushSlice]; refine onSlot_srcs h fun hd _ => ?_
    cases hp : pushInPlace cfg s h hd bs with
    | none => exact pushRealloc_srcs ..
    | some r => exact pushInPlace_srcs hp
  | pop h =>
    rw [step_pop]; refine onSlot_srcs h fun hd hg => ?_
    split
    · rfl
    · exact truncateOp_srcs hg ..
  | truncate h n => rw [step_truncate]; exact onSlot_srcs h fun hd hg => truncateOp_srcs hg ..
  | clear h => rw [step_clear]; exact onSlot_srcs h fun hd hg => truncateOp_srcs hg ..
  | shrinkTo h n => rw [step_shrinkTo]; exact onSlot_srcs h fun hd _ => shrinkToOp_srcs ..
  | shrinkToFit h => rw [step_shrinkToFit]; exact onSlot_srcs h fun hd _ => shrinkToOp_srcs ..
  | asMutWrite h i b =>
    rw [step_asMutWrite]; refine onSlot_srcs h fun hd _ => ?_
    have key : ∀ r : Rep, (if i < hlen hd then
        ok (setH (writeView s r (fun w => setAt w i b)).1 h
          (some { hd with repr := (writeView s r (fun w => setAt w i b)).2.1 })) (.bool true)
          (writeView s r (fun w => setAt w i b)).2.2
        else ok s (.bool true) []).1.srcs = s.srcs := by
      intro r
      split
      · exact writeView_srcs s ..
      · rfl
    cases hd.repr with
    | inline bs => simp only [if_true]; exact key _
    | borrowed a b c => rfl
    | heap o pb off len =>
      simp only
      split
      · exact key _
      · rfl
  | toMutWrite h i b =>
    rw [step_toMutWrite]; refine onSlot_srcs h fun hd _ => ?_
    split
    · exact uniqueWrite_srcs ..
    · exact makeUnique_srcs ..
  | makeAsciiLower h => rw [step_makeAsciiLower]; exact onSlot_srcs h fun hd _ => uniqueWrite_srcs ..
  | makeAsciiUpper h => rw [step_makeAsciiUpper]; exact onSlot_srcs h fun hd _ => uniqueWrite_srcs ..
  | toAsciiLower h d =>
    rw [step_toAsciiLower]; refine onSlot_srcs h fun hd _ => ?_
    split
    · exact asciiInstall_srcs ..
    · rfl
  | toAsciiUpper h d =>
    rw [step_toAsciiUpper]; refine onSlot_srcs h fun hd _ => ?_
    split
    · exact asciiInstall_srcs ..
    · rfl
  | mutate h sc =>
    rw [step_mutate]; exact onSlot_srcs h fun hd _ => (fromVecRepr_srcs ..).trans (takeVec_srcs ..)
  | mutateLeak h sc => rw [step_mutateLeak]; exact onSlot_srcs h fun hd _ => takeVec_srcs ..
  | intoOwned h d =>
    rw [step_intoOwned]; refine onSlot_srcs h fun hd _ => ?_
    split
    · cases hd.repr with
      | borrowed a b c => exact fromSliceRepr_srcs ..
      | inline bs => rfl
      | heap o pb off len => rfl
    · rfl
  | intoVec h =>
    rw [step_intoVec]; refine onSlot_srcs h fun hd _ => ?_
    cases hs : stealVec cfg s h hd with
    | none => rfl
    | some r => exact stealVec_srcs hs
  | toVec h =>
    rw [step_toVec]; refine onSlot_srcs h fun hd _ => ?_
    cases hs : stealVec cfg s h hd with
    | none => exact dropRepr_srcs ..
    | some r => exact stealVec_srcs hs
  | intoBorrowed h =>
    rw [step_intoBorrowed]; refine onSlot_srcs h fun hd _ => ?_
    cases hd.repr <;> rfl
  | «repeat» h d n =>
    rw [step_repeat]; refine onSlot_srcs h fun hd _ => ?_
    split
    · split
      · exact cloneRepr_srcs ..
      · split
        · split <;> rfl
        · rfl
    · rfl
  | spareCapacity h =>
    rw [step_spareCapacity]; refine onSlot_srcs h fun hd _ => ?_
    cases hd.repr with
    | inline bs => rfl
    | borrowed a b c => rfl
    | heap o pb off len =>
      simp only
      cases getI s o with
      | none => rfl
      | some x => simp only; split <;> rfl
  | drop h => rw [step_drop]; exact onSlot_srcs h fun hd _ => dropRepr_srcs ..

end HipVerif.Core
