/-
Closed forms of the generated range functions (`Gen/Ranges.lean`). The two normalisers compute a
start index, an end index, and compare them; `try_range_of` compares addresses. Each closed form
is proved once, by the nine bound shapes; everything else reasons on the indices.
-/
import HipVerif.Gen.Ranges
import HipVerif.Spec.Range

namespace HipVerif.RangeTy.R

/-- Accepted or rejected: neither `overflow` nor `ub`. -/
def Decided {ε α} (x : R ε α) : Prop := (∃ a, x = .ok a) ∨ (∃ e, x = .err e)

theorem Decided.ite {ε α} {c : Prop} [Decidable c] {x y : R ε α} (hx : x.Decided) (hy : y.Decided) :
    (if c then x else y).Decided := by
  split <;> assumption

theorem Decided.ne {ε α} {x : R ε α} (h : x.Decided) : x ≠ .overflow ∧ x ≠ .ub := by
  rcases h with ⟨a, rfl⟩ | ⟨e, rfl⟩ <;> exact ⟨nofun, nofun⟩

end HipVerif.RangeTy.R

namespace HipVerif.Spec.Range
open HipVerif.RangeTy

theorem stdGet_some_iff (s e : Bound) (len a b : Nat) :
    stdGet s e len = some (a, b) ↔ a = startIdx s ∧ b = endIdx len e ∧ a ≤ b ∧ b ≤ len := by
  simp only [stdGet]
  split
  · simp only [Option.some.injEq, Prod.mk.injEq]; omega
  · exact ⟨nofun, by omega⟩

theorem vecRange_some_iff (s e : Bound) (len a b : Nat) :
    vecRange s e len = some (a, b) ↔ a = startIdx s ∧ b = endIdx len e ∧ a ≤ b ∧ b ≤ len := by
  simp only [vecRange]
  split
  · exact ⟨nofun, by omega⟩
  · split
    · exact ⟨nofun, by omega⟩
    · simp only [Option.some.injEq, Prod.mk.injEq]; omega

end HipVerif.Spec.Range

namespace HipVerif.Gen.Ranges
open HipVerif.RangeTy HipVerif.Spec.Range

theorem satAdd_eq (a b : Nat) : satAdd a b = min (a + b) (U - 1) := by
  unfold satAdd; split <;> omega

/-- The start index `simplify_range_mono` compares: `n + 1` saturates. -/
def startU : Bound → Nat
  | .included n => n
  | .excluded n => satAdd n 1
  | .unbounded => 0

def endU (len : Nat) : Bound → Nat
  | .included n => satAdd n 1
  | .excluded n => n
  | .unbounded => len

theorem simplifyRangeMono_eq (s e : Bound) (len : Nat) :
    simplifyRangeMono s e len =
      if startU s > len then .err (startU s, endU len e, .startOutOfBounds)
      else if endU len e > len then .err (startU s, endU len e, .endOutOfBounds)
      else if startU s > endU len e then .err (startU s, endU len e, .startGreaterThanEnd)
      else .ok (startU s, endU len e) := by
  cases s <;> cases e <;>
    simp only [simplifyRangeMono, startU, endU, R.pure_eq, R.bind_ok, decide_eq_true_eq] <;> rfl

theorem startU_eq {s : Bound} (hs : Bound.fits s) : startU s = min (startIdx s) (U - 1) := by
  cases s <;> simp only [startU, startIdx, satAdd_eq, Bound.fits] at * <;> omega

theorem endU_eq {e : Bound} (he : Bound.fits e) {len : Nat} (hl : len < U) :
    endU len e = min (endIdx len e) (U - 1) := by
  cases e <;> simp only [endU, endIdx, satAdd_eq, Bound.fits] at * <;> omega

theorem simplifyRangeMono_ok_iff (s e : Bound) (len a b : Nat) :
    simplifyRangeMono s e len = .ok (a, b) ↔
      a = startU s ∧ b = endU len e ∧ a ≤ b ∧ b ≤ len := by
  rw [simplifyRangeMono_eq]
  split
  · exact ⟨nofun, by omega⟩
  · split
    · exact ⟨nofun, by omega⟩
    · split
      · exact ⟨nofun, by omega⟩
      · simp only [R.ok.injEq, Prod.mk.injEq]; omega

theorem simplifyRangeMono_decided (s e : Bound) (len : Nat) : (simplifyRangeMono s e len).Decided := by
  rw [simplifyRangeMono_eq]
  exact .ite (.inr ⟨_, rfl⟩) (.ite (.inr ⟨_, rfl⟩) (.ite (.inr ⟨_, rfl⟩) (.inl ⟨_, rfl⟩)))

/-- The start index `range_mono` compares: `none` when `n + 1` overflows. -/
def startC : Bound → Option Nat
  | .included n => some n
  | .excluded n => checkedAdd n 1
  | .unbounded => some 0

def endC (len : Nat) : Bound → Option Nat
  | .included n => checkedAdd n 1
  | .excluded n => some n
  | .unbounded => some len

/-- `o.ok_or(e)?` followed by the rest of the function. -/
theorem ofExcept_okOr_bind {ε β} (o : Option Nat) (e : ε) (f : Nat → R ε β) :
    (R.ofExcept (okOr o e) >>= f) = match o with | none => .err e | some a => f a := by
  cases o <;> rfl

theorem rangeMono_eq (s e : Bound) (len : Nat) :
    rangeMono s e len =
      match startC s with
      | none => .err .startOverflows
      | some a =>
        match endC len e with
        | none => .err .endOverflows
        | some b =>
          if a > b then .err (.startGreaterThanEnd a b)
          else if b > len then .err (.endOutOfBounds b len)
          else .ok (a, b) := by
  cases s <;> cases e <;>
    simp only [rangeMono, startC, endC, R.pure_eq, R.bind_ok, ofExcept_okOr_bind, decide_eq_true_eq] <;>
    rfl

theorem startC_eq {s : Bound} (hs : Bound.fits s) :
    startC s = if startIdx s < U then some (startIdx s) else none := by
  cases s
  · exact (if_pos hs).symm
  · rfl
  · exact (if_pos (Nat.two_pow_pos 64)).symm

theorem endC_eq {e : Bound} (he : Bound.fits e) {len : Nat} (hl : len < U) :
    endC len e = if endIdx len e < U then some (endIdx len e) else none := by
  cases e
  · rfl
  · exact (if_pos he).symm
  · exact (if_pos hl).symm

theorem rangeMono_decided (s e : Bound) (len : Nat) : (rangeMono s e len).Decided := by
  rw [rangeMono_eq]
  cases startC s with
  | none => exact .inr ⟨_, rfl⟩
  | some a =>
    cases endC len e with
    | none => exact .inr ⟨_, rfl⟩
    | some b => exact .ite (.inr ⟨_, rfl⟩) (.ite (.inr ⟨_, rfl⟩) (.inl ⟨_, rfl⟩))

/-- Acceptance for `usize` bounds: an index that overflows is above any length. -/
theorem rangeMono_ok_iff {s e : Bound} (hs : Bound.fits s) (he : Bound.fits e) {len : Nat} (hl : len < U)
    (a b : Nat) :
    rangeMono s e len = .ok (a, b) ↔ a = startIdx s ∧ b = endIdx len e ∧ a ≤ b ∧ b ≤ len := by
  rw [rangeMono_eq, startC_eq hs, endC_eq he hl]
  by_cases hA : startIdx s < U
  · by_cases hB : endIdx len e < U
    · simp only [if_pos hA, if_pos hB]
      split
      · exact ⟨nofun, by omega⟩
      · split
        · exact ⟨nofun, by omega⟩
        · simp only [R.ok.injEq, Prod.mk.injEq]; omega
    · simp only [if_pos hA, if_neg hB]
      exact ⟨nofun, by omega⟩
  · simp only [if_neg hA]
    exact ⟨nofun, by omega⟩

theorem tryRangeOf_eq (whole slice : Slice) :
    tryRangeOf whole slice =
      if slice.ptr < whole.ptr ∨ slice.ptr > whole.ptr + whole.len then .ok none
      else if slice.ptr - whole.ptr + slice.len < U then
        if slice.ptr - whole.ptr + slice.len > whole.len then .ok none
        else .ok (some (slice.ptr - whole.ptr, slice.ptr - whole.ptr + slice.len))
      else .overflow := by
  -- `delta`, not `simp only`: the `Decidable` instances mention `ptrRange whole` too
  unfold tryRangeOf
  delta ptrRange
  simp only [unwrap_tryInto_offsetFrom, uadd, R.pure_eq, R.ite_bind, R.bind_ok, R.bind_overflow,
    R.bind_ub, Bool.or_eq_true, decide_eq_true_eq]
  split
  · rfl
  · rw [if_pos (by omega)]
    split
    · split <;> rfl
    · rfl

theorem tryRangeOf_some_iff (whole slice : Slice) (o e : Nat) :
    tryRangeOf whole slice = .ok (some (o, e)) ↔
      whole.ptr ≤ slice.ptr ∧ o = slice.ptr - whole.ptr ∧ e = o + slice.len ∧ e < U ∧ e ≤ whole.len := by
  rw [tryRangeOf_eq]
  split
  · exact ⟨nofun, by omega⟩
  · split
    · split
      · exact ⟨nofun, by omega⟩
      · simp only [R.ok.injEq, Option.some.injEq, Prod.mk.injEq]; omega
    · exact ⟨nofun, by omega⟩

end HipVerif.Gen.Ranges
