/-
The frame calculus (`CoreFrame.lean`) and the buffer ledger (`CoreLedgerState.lean`) walked together:
each helper function of `step` is characterised once, for both; `CoreMoveStep.lean` does the operations.

The notions of the heap part, in the order they build on each other:
* `Frame s s' fs ws`: every box of `s` is still there in `s'`, dead ones untouched, liveness changes
  only in `fs`, the Vec only in `ws`; `Eff` adds that `fs` has at most one box, live before and on
  its last share; `WsOk s tg ws`: the boxes `ws` are solely owned through a slot in `tg`.
* `Ledger`, `EvGood L e`, `Accepted L evs`: the buffers in the system according to the events
  alone, the check an event passes against it, a list of events passing one after the other;
  `LedgerWf`: nothing is both in and gone.
* `LInvR R n L`: the ledger `L` describes exactly the owners given by the relation `R`;
  `OwnsAt S held` is that relation for a state (live boxes, plus the Vec `held` in a local variable);
  `LInv S L held := LInvR (OwnsAt S held) S.nextBuf L`; `bufSig` is all of a box that it looks at.
* `Trans S held ev S' held'`: whatever ledger described `(S, held)`, it accepts `ev` and then
  describes `(S', held')`.
* `Calm` / `Move` (here): `Frame` resp. `Eff`, together with `Trans`, for one piece of a step;
  `RepIn S r`: the representation `r` points into a live box of `S`, within capacity; `Made S p`:
  `p = (S', r, ev)` was built calmly and `RepIn S' r`.
* `StepMoves cfg s r tg` (`CoreMoveStep.lean`): `Move` from and to states without a held Vec, and `WsOk`.
* `EvOk S e`, `AllEvOk` (`CoreEvOk.lean`): a `freeBuf`/`write` is justified by the state `S`;
  `LedgerOk cfg s evs` (`CoreLedgerRun.lean`): `Wf`, `Accepted` from the empty ledger, and `LInv`.
-/
import HipVerif.Lemmas.CoreFrame
import HipVerif.Lemmas.CoreLedgerState

namespace HipVerif.Core
open HipVerif.Spec.Std

variable {cfg : Cfg} {S S1 S2 S' : State} {held held1 held2 held' : Option (Nat × Nat)}
  {ev ev1 ev2 : List Event} {ws ws1 ws2 : List Nat} {o : Nat} {x : Inner}

structure Calm (S : State) (held : Option (Nat × Nat)) (ev : List Event) (S' : State)
    (held' : Option (Nat × Nat)) (ws : List Nat) : Prop where
  frame : Frame S S' [] ws
  quiet : freesOf ev = []
  ledger : Trans S held ev S' held'

structure Move (cfg : Cfg) (S : State) (held : Option (Nat × Nat)) (ev : List Event) (S' : State)
    (held' : Option (Nat × Nat)) (ws : List Nat) : Prop where
  eff : Eff cfg S S' (freesOf ev) ws
  ledger : Trans S held ev S' held'

theorem calm_refl (S : State) (held : Option (Nat × Nat)) : Calm S held [] S held [] :=
  ⟨frame_refl S, rfl, trans_refl S held⟩

theorem Calm.trans (a : Calm S held ev1 S1 held1 ws1) (b : Calm S1 held1 ev2 S2 held2 ws2) :
    Calm S held (ev1 ++ ev2) S2 held2 (ws1 ++ ws2) :=
  ⟨a.frame.trans b.frame, by rw [freesOf_append, a.quiet, b.quiet]; rfl, a.ledger.trans b.ledger⟩

theorem Calm.move (a : Calm S held ev S' held' ws) : Move cfg S held ev S' held' ws :=
  ⟨by rw [a.quiet]; exact eff_of_frame a.frame, a.ledger⟩

theorem Move.then (m : Move cfg S held ev1 S1 held1 ws1) (c : Calm S1 held1 ev2 S2 held2 ws2) :
    Move cfg S held (ev1 ++ ev2) S2 held2 (ws1 ++ ws2) :=
  ⟨by rw [freesOf_append, c.quiet, List.append_nil]; exact m.eff.then_frame c.frame, m.ledger.trans c.ledger⟩

theorem calm_pool (held : Option (Nat × Nat)) (h : ∀ i, getI S' i = getI S i) (hn : S.nextBuf ≤ S'.nextBuf) :
    Calm S held [] S' held [] :=
  ⟨frame_of_getI h, rfl, trans_quiet (fun j => by unfold bufSig; rw [h j]) hn⟩

theorem Calm.put (c : Calm S held ev S1 held1 ws) (d : Nat) (v : Option Handle) :
    Calm S held ev (setH S1 d v) held1 ws := by
  have := c.trans (calm_pool held1 (S' := setH S1 d v) (fun _ => rfl) (Nat.le_refl _))
  rwa [List.append_nil, List.append_nil] at this

theorem Move.put (m : Move cfg S held ev S1 held1 ws) (d : Nat) (v : Option Handle) :
    Move cfg S held ev (setH S1 d v) held1 ws := by
  have := m.then (calm_pool held1 (S' := setH S1 d v) (fun _ => rfl) (Nat.le_refl _))
  rwa [List.append_nil, List.append_nil] at this

theorem calm_count (held : Option (Nat × Nat)) (hx : getI S o = some x)
    (hl : x.live = true) (c : Nat) : Calm S held [] (setI S o { x with count := c }) held [] :=
  ⟨frame_setI hx hl (fun _ => hl) (fun _ => ⟨rfl, rfl, rfl⟩), rfl,
    trans_quiet (bufSig_setI hx rfl rfl rfl) (Nat.le_refl _)⟩

theorem calm_poke (held : Option (Nat × Nat)) (hx : getI S o = some x)
    (hl : x.live = true) (data' : List UInt8) : Calm S held [] (setI S o { x with data := data' }) held [o] :=
  ⟨frame_setI hx hl (fun _ => hl) (fun hn => absurd (List.mem_singleton.mpr rfl) hn), rfl,
    trans_quiet (bufSig_setI hx rfl rfl rfl) (Nat.le_refl _)⟩

theorem calm_write {p : Option Nat} {b c : Nat} (hown : OwnsAt S held p b c) (lo hi : Nat) (hlh : lo ≤ hi)
    (hhi : hi ≤ c) (hc : 0 < c) : Calm S held [Event.write b lo hi] S held [] :=
  ⟨frame_refl S, rfl, fun _ hL => ⟨⟨⟨hlh, c, hL.owned_in hown hc, hhi⟩, trivial⟩, hL⟩⟩

theorem calm_regrow (hx : getI S o = some x) (hl : x.live = true)
    (held : Option (Nat × Nat)) (data' : List UInt8) (c1 : Nat) (hc1 : 0 < c1) :
    Calm S held [if x.cap > 0 then Event.growBuf x.buf S.nextBuf c1 else Event.allocBuf S.nextBuf c1]
      (setI { S with nextBuf := S.nextBuf + 1 } o { x with data := data', cap := c1, buf := S.nextBuf }) held [o] := by
  refine ⟨frame_setI (s := { S with nextBuf := S.nextBuf + 1 }) hx hl (fun _ => hl)
    (fun hn => absurd (List.mem_singleton.mpr rfl) hn), by split <;> rfl,
    trans_regrowAt (p := some o) ⟨x, hx, hl, rfl, rfl⟩ c1 hc1 ?_ rfl⟩
  intro p b c
  rw [ownsAt_setI (S := { S with nextBuf := S.nextBuf + 1 }) hx]
  simp only [hl, true_and]
  cases p <;> rfl

/-- `try_into_vec` / `take_vec` on the sole owner: the box dies, its Vec is held locally -/
theorem move_steal (hx : getI S o = some x) (hl : x.live = true) (hu : ownerUnique cfg S o = true) :
    Move cfg S none [Event.freeInner o] (setI S o { x with live := false }) (some (x.buf, x.cap)) [] := by
  refine ⟨eff_kill hx hl (by rw [ownerUnique_eq hx] at hu; simpa using hu), fun L hL => ⟨⟨trivial, trivial⟩,
    (LInvR.move hL (some o) none (by intro b c h; cases h)).congr ?_⟩⟩
  intro p b c
  rw [ownsAt_setI hx]
  cases p with
  | none =>
    simp only [OwnsAt, ne_eq, reduceCtorEq, not_false_eq_true, and_true, false_and, or_false, Option.some.injEq,
      Prod.mk.injEq, true_and, false_or]
    constructor
    · rintro ⟨rfl, rfl⟩; exact ⟨x, hx, hl, rfl, rfl⟩
    · rintro ⟨y, hy, _, rfl, rfl⟩; rw [hx] at hy; cases hy; exact ⟨rfl, rfl⟩
  | some j => simp [OwnsAt]

theorem calm_release_shared (held : Option (Nat × Nat)) (hx : getI S o = some x)
    (hl : x.live = true) (hu : ¬ ownerUnique cfg S o = true) :
    Calm S held (release cfg S o).2 (release cfg S o).1 held [] := by
  rw [ownerUnique_eq hx] at hu
  unfold release
  rw [hx]
  simp only [hu]
  exact calm_count held hx hl _

/-- `Smart::drop`, after a quiet prefix that left box `o` as it was (the justification of the
`freeInner` speaks of the state before the prefix) -/
theorem move_release_after (c : Calm S held ev1 S1 held1 [])
    (hx : getI S o = some x) (hx1 : getI S1 o = some x) (hl : x.live = true) :
    Move cfg S held (ev1 ++ (release cfg S1 o).2) (release cfg S1 o).1 held1 [] := by
  unfold release
  rw [hx1]
  simp only
  split
  · rename_i hlast
    have t := (trans_leaveAt (S' := setI S1 o { x with live := false }) (held := held1) (held' := held1) (p := some o)
      ⟨x, hx1, hl, rfl, rfl⟩ (Or.inl rfl) (by intro p b c; rw [ownsAt_setI hx1]; simp) rfl).trans
      (trans_neutral [.freeInner o] (fun e he => Or.inr ⟨o, List.mem_singleton.mp he⟩))
    refine ⟨?_, c.ledger.trans t⟩
    have hfs : freesOf (ev1 ++ ((if x.cap > 0 then [Event.freeBuf x.buf] else []) ++ [Event.freeInner o])) = [o] := by
      rw [freesOf_append, c.quiet]; split <;> rfl
    rw [hfs]
    exact Eff.after_frame c.frame (eff_kill hx1 hl (by simpa using hlast))
      (fun o' ho' => by rw [List.mem_singleton.mp ho', hx1, hx])
  · exact (c.trans (calm_count held1 hx1 hl _)).move

theorem move_release (held : Option (Nat × Nat)) (hx : getI S o = some x)
    (hl : x.live = true) : Move cfg S held (release cfg S o).2 (release cfg S o).1 held [] :=
  move_release_after (calm_refl S held) hx hx hl

def RepIn (S : State) : Rep → Prop
  | .heap o _ off len => ∃ x, getI S o = some x ∧ x.live = true ∧ off + len ≤ x.cap
  | _ => True

theorem repIn_of_wf {s : State} {h : Nat} {hd : Handle} (w : Wf cfg s) (hg : getH s h = some hd) :
    RepIn s hd.repr := by
  have hok := w.handles h hd hg
  unfold HandleOk at hok
  cases hr : hd.repr with
  | heap o pb off len =>
    rw [hr] at hok
    obtain ⟨x, hx, hl, _, hrng⟩ := hok
    exact ⟨x, hx, hl, Nat.le_trans hrng (w.datacap o x hx hl)⟩
  | _ => trivial

theorem move_dropRepr_after (c : Calm S held ev1 S1 held1 [])
    (hold : ∀ j x, getI S j = some x → getI S1 j = some x) {r : Rep} (hr : RepIn S r) :
    Move cfg S held (ev1 ++ (dropRepr cfg S1 r).2) (dropRepr cfg S1 r).1 held1 [] := by
  cases r with
  | heap o pb off len =>
    obtain ⟨x, hx, hl, _⟩ := hr
    exact move_release_after c hx (hold o x hx) hl
  | _ => exact (c.trans (calm_refl S1 held1)).move

theorem move_dropRepr (held : Option (Nat × Nat)) {r : Rep} (hr : RepIn S r) :
    Move cfg S held (dropRepr cfg S r).2 (dropRepr cfg S r).1 held [] :=
  move_dropRepr_after (calm_refl S held) (fun _ _ h => h) hr

/-! ### the Vec held in a local variable -/

/-- `Allocated::new(vec)`: the held Vec moves into a fresh box -/
theorem calm_box (S : State) (data : List UInt8) (cap buf : Nat) :
    Calm S (some (buf, cap)) (boxVec S data cap buf).2.2 (boxVec S data cap buf).1 none [] := by
  refine ⟨frame_append S _, rfl, fun L hL => ⟨⟨trivial, trivial⟩,
    (LInvR.move hL none (some S.inners.length) (ownsAt_fresh_pos S _)).congr ?_⟩⟩
  intro p b c
  have := ownsAt_append S { count := 0, data := data, cap := cap, buf := buf, live := true } S.nextBuf none p b c
  simp only [true_and] at this
  show OwnsAt { S with inners := S.inners ++ [_] } none p b c ↔ _
  rw [this]
  cases p with
  | none => simp [OwnsAt]
  | some j =>
    simp only [OwnsAt, ne_eq, reduceCtorEq, not_false_eq_true, and_true, Option.some.injEq, Prod.mk.injEq]
    constructor
    · rintro (h | ⟨rfl, rfl, rfl⟩)
      · exact Or.inl h
      · exact Or.inr ⟨rfl, rfl, rfl⟩
    · rintro (h | ⟨rfl, rfl, rfl⟩)
      · exact Or.inl h
      · exact Or.inr ⟨rfl, rfl, rfl⟩

theorem calm_heldEnter (S : State) (c : Nat) (e : Event)
    (he : e = .allocBuf S.nextBuf c ∨ e = .importBuf S.nextBuf c) :
    Calm S none (if c > 0 then [e] else []) { S with nextBuf := S.nextBuf + 1 } (some (S.nextBuf, c)) [] := by
  refine ⟨frame_of_getI (fun _ => rfl), by rcases he with rfl | rfl <;> split <;> rfl, fun L hL => ?_⟩
  obtain ⟨ha, hun⟩ := LInvR.add hL none S.nextBuf c (by intro b c h; cases h) (Nat.le_refl _) (Nat.lt_succ_self _)
  have hR : ∀ (p : Option Nat) (b c' : Nat),
      OwnsAt { S with nextBuf := S.nextBuf + 1 } (some (S.nextBuf, c)) p b c' ↔
      (OwnsAt S none p b c' ∨ (p = none ∧ b = S.nextBuf ∧ c' = c)) := by
    intro p b c'
    cases p with
    | none => simp [OwnsAt]; constructor <;> (rintro ⟨rfl, rfl⟩; exact ⟨rfl, rfl⟩)
    | some j => simp [OwnsAt]; rfl
  by_cases hc : 0 < c
  · simp only [gt_iff_lt, hc, if_true] at ha ⊢
    rcases he with rfl | rfl <;> exact ⟨⟨⟨hc, hun⟩, trivial⟩, ha.congr hR⟩
  · simp only [gt_iff_lt, hc, if_false] at ha ⊢
    exact ⟨trivial, ha.congr hR⟩

theorem calm_heldFree (S : State) (b c : Nat) :
    Calm S (some (b, c)) (if c > 0 then [Event.freeBuf b] else []) S none [] :=
  ⟨frame_refl S, by split <;> rfl, trans_leaveAt (p := none) rfl (Or.inl rfl) (ownsAt_drop_held S b c) rfl⟩

theorem calm_heldExport (S : State) (b c : Nat) :
    Calm S (some (b, c)) (if c > 0 then [Event.exportBuf b] else []) S none [] :=
  ⟨frame_refl S, by split <;> rfl, trans_leaveAt (p := none) rfl (Or.inr rfl) (ownsAt_drop_held S b c) rfl⟩

theorem calm_heldRegrow (S : State) (b c c1 : Nat) (hc1 : 0 < c1) :
    Calm S (some (b, c)) [if c > 0 then Event.growBuf b S.nextBuf c1 else Event.allocBuf S.nextBuf c1]
      { S with nextBuf := S.nextBuf + 1 } (some (S.nextBuf, c1)) [] := by
  refine ⟨frame_of_getI (fun _ => rfl), by split <;> rfl, trans_regrowAt (p := none) rfl c1 hc1 ?_ rfl⟩
  intro p b' c'
  cases p with
  | none => simp [OwnsAt]; constructor <;> (rintro ⟨rfl, rfl⟩; exact ⟨rfl, rfl⟩)
  | some j => simp [OwnsAt]; rfl

/-! ### the functions that build a representation -/

structure Made (S : State) (p : State × Rep × List Event) : Prop where
  calm : Calm S none p.2.2 p.1 none []
  repIn : RepIn p.1 p.2.1

theorem made_refl (S : State) {r : Rep} (hr : RepIn S r) : Made S (S, r, []) :=
  ⟨calm_refl S none, hr⟩

theorem made_newHeap (S : State) (data : List UInt8) (cap : Nat) (hc : data.length ≤ cap) :
    Made S (newHeap S data cap) := by
  have hnew := getI_newHeap_new S data cap
  have t3 : Calm (newHeap S data cap).1 none
      (if data.length > 0 then [Event.write S.nextBuf 0 data.length] else []) (newHeap S data cap).1 none [] := by
    split
    · exact calm_write (p := some S.inners.length) (c := cap) ⟨_, hnew, rfl, rfl, rfl⟩ 0 _ (Nat.zero_le _) hc
        (by omega)
    · exact calm_refl _ _
  exact ⟨((calm_heldEnter S cap (.allocBuf S.nextBuf cap) (Or.inl rfl)).trans
    (calm_box { S with nextBuf := S.nextBuf + 1 } data cap S.nextBuf)).trans t3,
    ⟨_, hnew, rfl, by rw [Nat.zero_add]; exact hc⟩⟩

theorem fromSliceRepr_post (S : State) (bs : List UInt8) :
    Made S (fromSliceRepr cfg S bs) ∧
    ∀ o pb off len, (fromSliceRepr cfg S bs).2.1 = .heap o pb off len → ¬ o < S.inners.length := by
  unfold fromSliceRepr
  split
  · exact ⟨made_refl S trivial, fun _ _ _ _ he => nomatch he⟩
  · split
    · exact ⟨made_refl S trivial, fun _ _ _ _ he => nomatch he⟩
    · exact ⟨made_newHeap S bs bs.length (Nat.le_refl _),
        fun _ _ _ _ he => by cases he; exact Nat.lt_irrefl _⟩

theorem calm_incr {b : Bool} (hi : incr cfg S o = (S1, b))
    (hx : getI S o = some x) (hl : x.live = true) : Calm S none [] S1 none [] := by
  cases b with
  | false => rw [incr_false hi]; exact calm_refl S none
  | true =>
    obtain ⟨_, x', hx', _, rfl⟩ := incr_true hi
    rw [hx] at hx'; cases hx'
    exact calm_count none hx hl _

theorem cloneRepr_post {hd : Handle} (hr : RepIn S hd.repr) :
    Made S (cloneRepr cfg S hd) ∧
    ∀ o pb off len, (cloneRepr cfg S hd).2.1 = .heap o pb off len → o < S.inners.length →
      ownerUnique cfg (cloneRepr cfg S hd).1 o = false := by
  unfold cloneRepr
  cases hrep : hd.repr with
  | inline bs => exact ⟨made_refl S trivial, fun _ _ _ _ he => nomatch he⟩
  | borrowed a b c => exact ⟨made_refl S trivial, fun _ _ _ _ he => nomatch he⟩
  | heap o pb off len =>
    rw [hrep] at hr
    obtain ⟨x, hx, hl, hc⟩ := hr
    simp only
    cases hi : incr cfg S o with
    | mk S1 done =>
      cases done with
      | true =>
        simp only [if_true]
        obtain ⟨hnu, x', hx', _, rfl⟩ := incr_true hi
        rw [hx] at hx'; cases hx'
        have hx1 := getI_setI_same S o { x with count := x.count + 1 } (getI_some_lt hx)
        refine ⟨⟨calm_count none hx hl _, ⟨_, hx1, hl, hc⟩⟩, ?_⟩
        intro o' _ _ _ he _
        cases he
        rw [ownerUnique_eq hx1]
        cases hb : cfg.backend with
        | unique => exact absurd hb hnu
        | _ => rfl
      | false =>
        simp only [Bool.false_eq_true, if_false]
        exact ⟨made_newHeap S _ _ (Nat.le_refl _),
          fun _ _ _ _ he hlt => by cases he; exact absurd hlt (Nat.lt_irrefl _)⟩

theorem calm_rangeRepr {hd : Handle} (hr : RepIn S hd.repr) (a b : Nat) :
    Calm S none (rangeRepr cfg S hd a b).2.2 (rangeRepr cfg S hd a b).1 none [] := by
  unfold rangeRepr
  cases hrep : hd.repr with
  | inline bs => exact calm_refl S none
  | borrowed _ _ _ => exact calm_refl S none
  | heap o pb off len =>
    rw [hrep] at hr
    obtain ⟨x, hx, hl, _⟩ := hr
    simp only
    split
    · exact calm_refl S none
    · split
      · exact calm_incr (b := (incr cfg S o).2) rfl hx hl
      · exact (made_newHeap S _ _ (by simp only [List.length_take]; omega)).calm

theorem makeUnique_post {hd : Handle} (hr : RepIn S hd.repr) :
    Made S (makeUnique cfg S hd) ∧
    ∀ o pb off len, (makeUnique cfg S hd).2.1 = .heap o pb off len → o < S.inners.length →
      ownerUnique cfg S o = true ∧ hd.repr = .heap o pb off len := by
  unfold makeUnique
  cases hrep : hd.repr with
  | inline bs => exact ⟨made_refl S trivial, fun _ _ _ _ he => nomatch he⟩
  | borrowed a b c =>
    have h := fromSliceRepr_post (cfg := cfg) S (view S hd)
    exact ⟨h.1, fun o pb off len he hlt => absurd hlt (h.2 o pb off len he)⟩
  | heap o pb off len =>
    rw [hrep] at hr
    obtain ⟨x, hx, hl, hc⟩ := hr
    simp only
    split
    · rename_i hu
      exact ⟨made_refl S ⟨x, hx, hl, hc⟩, fun _ _ _ _ he _ => by cases he; exact ⟨hu, rfl⟩⟩
    · rename_i hu
      have hn := made_newHeap S (view S hd) (view S hd).length (Nat.le_refl _)
      have hx1 := (getI_newHeap_lt S (view S hd) (view S hd).length (getI_some_lt hx)).trans hx
      have hrel := calm_release_shared (cfg := cfg) none hx1 hl
        (by rw [ownerUnique_eq hx1, ← ownerUnique_eq hx]; exact hu)
      refine ⟨⟨hn.calm.trans hrel, ?_⟩, fun _ _ _ _ he hlt => by cases he; exact absurd hlt (Nat.lt_irrefl _)⟩
      -- the fresh box is not the one released
      exact ⟨_, by rw [release_getI_other _ _ _ _ (Nat.ne_of_lt (getI_some_lt hx))]; exact getI_newHeap_new .., rfl,
        by rw [Nat.zero_add]; exact Nat.le_refl _⟩

theorem eff_makeUnique {cfg : Cfg} {s : State} {hd : Handle} (hok : HandleOk cfg s hd) :
    Eff cfg s (makeUnique cfg s hd).1 (freesOf (makeUnique cfg s hd).2.2) [] := by
  unfold HandleOk at hok
  unfold makeUnique
  cases hrep : hd.repr with
  | inline bs => exact eff_of_frame (frame_refl s)
  | borrowed a b c => exact (fromSliceRepr_post s _).1.calm.move.eff
  | heap o pb off len =>
    rw [hrep] at hok
    obtain ⟨x, hx, hl, _⟩ := hok
    simp only
    split
    · exact eff_of_frame (frame_refl s)
    · rename_i hu
      have hx1 := (getI_newHeap_lt s (view s hd) (view s hd).length (getI_some_lt hx)).trans hx
      exact ((made_newHeap s _ _ (Nat.le_refl _)).calm.trans (calm_release_shared (cfg := cfg) none hx1 hl
        (by rw [ownerUnique_eq hx1, ← ownerUnique_eq hx]; exact hu))).move.eff

/-! ### writing through a representation -/

def ownerOf : Rep → List Nat
  | .heap o _ _ _ => [o]
  | _ => []

theorem calm_writeView {r : Rep} (f : List UInt8 → List UInt8) (hr : RepIn S r) :
    Calm S none (writeView S r f).2.2 (writeView S r f).1 none (ownerOf r) := by
  cases r with
  | inline bs => exact calm_refl S none
  | borrowed a b c => exact calm_refl S none
  | heap o pb off len =>
    obtain ⟨x, hx, hl, hc⟩ := hr
    unfold writeView
    simp only [hx]
    have hp := calm_poke none hx hl (x.data.take off ++ f ((x.data.drop off).take len) ++ x.data.drop (off + len))
    split
    · exact (calm_write (p := some o) ⟨x, hx, hl, rfl, rfl⟩ off (off + len) (Nat.le_add_right _ _) hc
        (by omega)).trans hp
    · exact hp

/-- `normalized_from_vec` on the held Vec: freed (contents go inline) or boxed -/
theorem calm_fromVecRepr (S : State) (bs : List UInt8) (cap buf : Nat) :
    Calm S (some (buf, cap)) (fromVecRepr cfg S bs cap buf).2.2 (fromVecRepr cfg S bs cap buf).1 none [] := by
  unfold fromVecRepr
  split
  · exact calm_heldFree S buf cap
  · exact calm_box S bs cap buf

/-- the copy-out prefix of `take_vec` / `Vec::from`: a temporary Vec of exactly `len` bytes -/
theorem calm_copyAlloc (S : State) (len : Nat) :
    Calm S none (if len > 0 then [Event.allocBuf S.nextBuf len, Event.write S.nextBuf 0 len] else [])
      { S with nextBuf := S.nextBuf + 1 } (some (S.nextBuf, len)) [] := by
  have t1 := calm_heldEnter S len (.allocBuf S.nextBuf len) (Or.inl rfl)
  by_cases hl : 0 < len
  · simp only [gt_iff_lt, hl, if_true] at t1 ⊢
    exact t1.trans (calm_write (S := { S with nextBuf := S.nextBuf + 1 }) (held := some (S.nextBuf, len))
      (p := none) rfl 0 len (Nat.zero_le _) (Nat.le_refl _) hl)
  · simp only [gt_iff_lt, hl, if_false] at t1 ⊢
    exact t1

theorem calm_vecApply (S : State) (sc : List VecOp) : ∀ (data : List UInt8) (cap buf nb : Nat),
    let q := vecApply data cap buf nb sc
    Calm { S with nextBuf := nb } (some (buf, cap)) q.2.2.2.2 { S with nextBuf := q.2.2.2.1 }
      (some (q.2.2.1, q.2.1)) [] := by
  induction sc with
  | nil => intro data cap buf nb; exact calm_refl _ _
  | cons op rest ih =>
    intro data cap buf nb
    cases op with
    | push b =>
      simp only [vecApply]
      split
      · exact (calm_refl _ _).trans (ih (data ++ [b]) cap buf nb)
      · exact (calm_heldRegrow { S with nextBuf := nb } buf cap _ (growCap_pos _ _)).trans (ih _ _ _ _)
    | extend bs =>
      simp only [vecApply]
      split
      · exact (calm_refl _ _).trans (ih (data ++ bs) cap buf nb)
      · exact (calm_heldRegrow { S with nextBuf := nb } buf cap _ (growCap_pos _ _)).trans (ih _ _ _ _)
    | truncate k => exact (calm_refl _ _).trans (ih (data.take k) cap buf nb)
    | clear => exact (calm_refl _ _).trans (ih [] cap buf nb)

end HipVerif.Core
