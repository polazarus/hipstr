/-
Ownership-invariant preservation for the ThinVec operations of the L0 model, including the
capacity arithmetic behind `reserve` (no write beyond the capacity) and the `from_mut_vector`
conversions of both vector kinds.
-/
import HipVerif.Lemmas.SlotsShift
namespace HipVerif.Slots

variable {fl : Bool}

theorem roundCap_ge (esz n : Nat) : n ≤ roundCap esz n := by
  unfold roundCap
  split
  · exact Nat.le_refl _
  · rename_i h
    rw [Nat.le_div_iff_mul_le (Nat.pos_of_ne_zero h)]
    simp only [hdr]
    generalize n * esz = y
    omega

theorem roundCap_eq_of_pos {esz : Nat} (h : 0 < esz) (n : Nat) :
    roundCap esz n = (laySize esz n - hdr) / esz := by
  unfold roundCap laySize
  rw [if_neg (by omega)]

theorem laySize_roundCap {esz : Nat} (h : 0 < esz) (n : Nat) :
    laySize esz (roundCap esz n) = laySize esz n := by
  have h1 : n * esz ≤ roundCap esz n * esz := Nat.mul_le_mul_right _ (roundCap_ge esz n)
  have h2 : roundCap esz n * esz ≤ laySize esz n - hdr := by
    rw [roundCap_eq_of_pos h]; exact Nat.div_mul_le_self _ _
  unfold laySize at h2 ⊢
  simp only [hdr] at h2 ⊢
  generalize n * esz = y1 at h1 h2 ⊢
  generalize roundCap esz n * esz = y2 at h1 h2 ⊢
  omega

theorem roundCap_fix {esz : Nat} (h : 0 < esz) (n : Nat) :
    roundCap esz (roundCap esz n) = roundCap esz n := by
  rw [roundCap_eq_of_pos h (roundCap esz n), laySize_roundCap h, ← roundCap_eq_of_pos h]

theorem LocalVec.setCapacity {v : Vec} {L : List Nat} (h : LocalVec v L) (n : Nat)
    (hn : L.length ≤ n) : LocalVec (v.setCapacity n) L := by
  unfold Vec.setCapacity
  split
  · exact h
  · obtain ⟨e1, rest, e2⟩ := h
    have hge := roundCap_ge v.h.esz n
    refine ⟨e1, (rest ++ uninits (roundCap v.h.esz n - v.cap)).take (roundCap v.h.esz n - L.length), ?_⟩
    simp only [e2, List.append_assoc]
    rw [List.take_append]
    simp only [List.length_map]
    rw [List.take_of_length_le (by simp; omega)]

theorem LocalVec.reserve {v : Vec} {L : List Nat} (h : LocalVec v L) (add : Nat) :
    LocalVec (v.reserve add) L := by
  unfold Vec.reserve
  split
  · exact h.setCapacity _ (by rw [h.1]; omega)
  · exact h


theorem Vec.setCapacity_room {v : Vec} (n : Nat) (hpos : 0 < v.h.esz)
    (hfix : roundCap v.h.esz v.cap = v.cap) :
    (v.setCapacity n).len = v.len ∧ (v.setCapacity n).h = v.h ∧ n ≤ (v.setCapacity n).cap ∧
      roundCap v.h.esz (v.setCapacity n).cap = (v.setCapacity n).cap := by
  unfold Vec.setCapacity
  split
  · rename_i hsame
    refine ⟨rfl, rfl, ?_, hfix⟩
    have : roundCap v.h.esz v.cap = roundCap v.h.esz n := by
      rw [roundCap_eq_of_pos hpos, roundCap_eq_of_pos hpos, hsame]
    rw [← hfix, this]; exact roundCap_ge _ _
  · have hge := roundCap_ge v.h.esz n
    have hlen : ((v.slots ++ uninits (roundCap v.h.esz n - v.slots.length)).take
        (roundCap v.h.esz n)).length = roundCap v.h.esz n := by
      simp only [List.length_take, List.length_append, uninits, List.length_replicate]
      omega
    refine ⟨rfl, rfl, ?_, ?_⟩
    · simp only [Vec.cap]; rw [hlen]; exact hge
    · simp only [Vec.cap]; rw [hlen]; exact roundCap_fix hpos n

theorem Vec.reserve_room {v : Vec} (add : Nat) (hpos : 0 < v.h.esz)
    (hfix : roundCap v.h.esz v.cap = v.cap) (hle : v.len ≤ v.cap) :
    (v.reserve add).len = v.len ∧ (v.reserve add).h = v.h ∧ v.len + add ≤ (v.reserve add).cap ∧
      roundCap v.h.esz (v.reserve add).cap = (v.reserve add).cap := by
  unfold Vec.reserve
  split
  · obtain ⟨h1, h2, h3, h4⟩ := Vec.setCapacity_room (max (v.len + add) (v.cap * 2)) hpos hfix
    exact ⟨h1, h2, by omega, h4⟩
  · exact ⟨rfl, rfl, by omega, hfix⟩

theorem OwnL.realloc {s loc locB} {v' : Vec} (h : OwnL fl s loc locB)
    (hv : ∀ L, LocalVec s.v L → LocalVec v' L) (hh : v'.h = s.v.h)
    (hfix : roundCap s.v.h.esz v'.cap = v'.cap) : OwnL fl { s with v := v' } loc locB := by
  obtain ⟨L, hvL, ha⟩ := h.elim
  refine OwnL.intro (hv L hvL) ?_ (by rw [hh]; exact ha)
  unfold HdrOk
  rw [hh]
  exact ⟨h.hdrOk.1, fun ht hal => ⟨(h.hdrOk.2 ht hal).1, hfix⟩⟩

theorem OwnL.reserve {s loc locB} (add : Nat) (h : OwnL fl s loc locB) (ht : s.v.h.thin = true)
    (hal : s.v.h.alive = true) :
    OwnL fl (s.reserve add) loc locB ∧ (s.reserve add).v.len = s.v.len ∧
      (s.reserve add).v.h = s.v.h ∧ s.v.len + add ≤ (s.reserve add).v.cap ∧
      (s.reserve add).mem = s.mem := by
  obtain ⟨hpos, hfix⟩ := h.hdrOk.2 ht hal
  obtain ⟨r1, r2, r3, r4⟩ := Vec.reserve_room add hpos hfix h.len_le
  exact ⟨h.realloc (fun L hv => hv.reserve add) r2 r4, r1, r2, r3, rfl⟩

theorem tPush_own {s loc locB} (h : OwnL fl s loc locB) (ht : s.v.h.thin = true)
    (hal : s.v.h.alive = true) : OwnL fl (tPush s).2 loc locB := by
  obtain ⟨g1, g2, -, g4, -⟩ := h.mkVal.reserve 1 ht hal
  exact g1.store (by omega)

/-- `insert` after its `reserve(1)` is the shift of `InlineVec::try_insert` (an empty chunk is not
copied at all) -/
theorem tInsert_eq {s1 : St} (i x : Nat) (hi : i ≤ s1.v.len)
    (hg : (s1.reserve 1).v.len = s1.v.len) (hc : s1.v.len + 1 ≤ (s1.reserve 1).v.cap) :
    St.setLen (s1.v.len + 1) (St.wr i (Slot.init x)
      (if i < s1.v.len then St.copyWithin i (i + 1) (s1.v.len - i) (s1.reserve 1)
       else s1.reserve 1)) = iInsertCore i x (s1.reserve 1) := by
  unfold iInsertCore
  simp only [hg]
  split
  · rfl
  · rw [show s1.v.len - i = 0 by omega, St.copyWithin_zero (by omega)]

theorem tInsert_own {s loc locB} (i : Nat) (h : OwnL fl s loc locB) (ht : s.v.h.thin = true)
    (hal : s.v.h.alive = true) : OwnL fl (tInsert i s).2 loc locB := by
  unfold tInsert
  obtain ⟨g1, g2, -, g4, -⟩ := h.mkVal.reserve 1 ht hal
  have h1 := h.mkVal
  generalize s.onMem Mem.mkVal = r at h1 g1 g2 g4
  obtain ⟨x, s1⟩ := r
  simp only at h1 g1 g2 g4 ⊢
  split
  · rename_i hi
    rw [tInsert_eq i x hi g2 g4]
    exact g1.insertCore (by omega) (by omega)
  · exact h1.dropId

theorem tTruncate_own {s loc locB} (n : Nat) (h : OwnL fl s loc locB) :
    OwnL fl (tTruncate n s).2 loc locB := by
  unfold tTruncate
  split
  · exact h
  · exact h.truncate OwnL.dropSlice (by omega)

theorem tClear_own {s loc locB} (h : OwnL fl s loc locB) : OwnL fl (tClear s).2 loc locB :=
  h.truncate OwnL.dropSlice (Nat.zero_le _)

theorem tResize_own {s loc locB} (n : Nat) (h : OwnL fl s loc locB) (ht : s.v.h.thin = true)
    (hal : s.v.h.alive = true) : OwnL fl (tResize n s).2 loc locB := by
  unfold tResize
  have h1 := h.mkVal
  have hv : (s.onMem Mem.mkVal).2.v = s.v := rfl
  generalize s.onMem Mem.mkVal = r at h1 hv
  obtain ⟨x, s1⟩ := r
  simp only at h1 hv ⊢
  split
  · rename_i hn
    obtain ⟨g1, g2, g3, g4, g5⟩ :=
      h1.reserve (n - s1.v.len) (by rw [hv]; exact ht) (by rw [hv]; exact hal)
    rw [tFillClone_eq]
    obtain ⟨hown, -, f1, -, f2, -⟩ := storeLoop_own (List.replicate (n - s1.v.len - 1) (some x)) _ g1
      (by simp; omega)
    generalize storeLoop _ (s1.reserve (n - s1.v.len)) = r2 at hown f1 f2
    obtain ⟨p, s2⟩ := r2
    cases p
    · exact OwnL.store hown (by simp at f1 f2; omega)
    · exact OwnL.dropId hown
  · exact (tTruncate_own n h1).dropId


/-- `guarded_slice_clone` behind `base` is the fill loop run with the length advanced over the
clones written so far; afterwards the length is put back, and if a clone panicked the guard has
dropped those clones first. -/
theorem tGuardedClone_eq (base : Nat) : ∀ (srcs : List Nat) (j : Nat) (s : St),
    tGuardedClone base srcs j s =
      (match storeLoop (srcs.map some) (s.setLen (base + j)) with
       | (true, s') => (true, (s'.onMem (Mem.dropSlice (s'.v.range base s'.v.len))).2.setLen s.v.len)
       | (false, s') => (false, s'.setLen s.v.len))
  | [], _, _ => rfl
  | a :: as, j, s => by
    simp only [tGuardedClone, List.map_cons, storeLoop, St.onMem_eq, Mem.cloneId_eq,
      St.setLen_mem]
    rcases s.mem.produce (some a) with ⟨_ | b, m'⟩
    · rfl
    · dsimp only
      rw [tGuardedClone_eq base as (j + 1), St.wr_len]
      have : St.store b (({ s with mem := m' } : St).setLen (base + j)) =
          (St.wr (base + j) (.init b) { s with mem := m' }).setLen (base + (j + 1)) := by
        simp only [St.store, St.setLen_len, St.wr_setLen]; rfl
      rw [← this]; rfl

theorem tExtSlice_own {s loc locB} (n : Nat) (h : OwnL fl s loc locB) (ht : s.v.h.thin = true)
    (hal : s.v.h.alive = true) : OwnL fl (tExtSlice n s).2 loc locB := by
  unfold tExtSlice
  obtain ⟨hl, hv, ho⟩ := mkVals_own n s h
  generalize mkVals n s = r at hl hv ho ⊢
  obtain ⟨srcs, s1⟩ := r
  simp only at hl hv ho ⊢
  obtain ⟨g1, g2, -, g4, -⟩ := ho.reserve n (by rw [hv]; exact ht) (by rw [hv]; exact hal)
  generalize s1.reserve n = s2 at g1 g2 g4 ⊢
  rw [tGuardedClone_eq, Nat.add_zero, St.setLen_self rfl]
  obtain ⟨f1, f2, -, f4, -, -⟩ := storeLoop_own (srcs.map some) s2 g1 (by simp; omega)
  generalize storeLoop (srcs.map some) s2 = r2 at f1 f2 f4 ⊢
  obtain ⟨p, s3⟩ := r2
  apply OwnL.markDrops
  cases p
  · -- all clones stored: the length is set to what the loop left
    simp only [Bool.false_eq_true, if_false, St.setLen_len]
    show OwnL fl (s3.setLen (s2.v.len + n)) _ _
    rw [St.setLen_self (by rw [f4 rfl, List.length_map, hl])]
    exact f1
  · -- the guard drops the clones stored so far
    obtain ⟨tl, e1, -, e3⟩ := f1.setLen_take (n := s2.v.len) f2
    simp only [if_true]
    rw [e1]
    exact e3.dropSlice

/-- the loop of `try_extend_from_within` reads its sources in place; they are live elements below
`len` (`M`, behind `A`), so it is the fill loop cloning `M` -/
theorem tWithinLoop_eq : ∀ (M : List Nat) (s : St) (A C : List Nat), LocalVec s.v (A ++ (M ++ C)) →
    (A ++ (M ++ C)).length + M.length ≤ s.v.cap → (∀ a ∈ M, a ∉ s.mem.out) →
    tWithinLoop A.length M.length s = storeLoop (M.map some) s
  | [], _, _, _, _, _, _ => rfl
  | a :: M, s, A, C, hv, hc, hm => by
    have hg : s.v.get A.length = .init a := by rw [hv.get (by simp)]; simp
    simp only [List.length_cons, tWithinLoop, List.map_cons, storeLoop, St.onMem_eq, hg,
      Mem.cloneSlot_init (hm a (List.mem_cons_self ..))]
    have hout := Mem.produce_out (some a) s.mem
    generalize s.mem.produce (some a) = r at hout ⊢
    obtain ⟨_ | b, m'⟩ := r
    · rfl
    · have hp := St.store_post (s := { s with mem := m' }) b hv (by simp at hc ⊢; omega)
      have := tWithinLoop_eq M _ (A ++ [a]) (C ++ [b]) (by simpa using hp.view)
        (by rw [hp.cap]; simp at hc ⊢; omega) (fun c hcm => by
          rw [St.store_out]; simp only at hout ⊢; rw [hout]
          exact hm c (List.mem_cons_of_mem _ hcm))
      simpa using this

theorem tWithinLoop_eq_of_view {s : St} {L : List Nat} {a b : Nat} (hv : LocalVec s.v L)
    (hab : a ≤ b ∧ b ≤ L.length) (hc : L.length + (b - a) ≤ s.v.cap)
    (hm : ∀ x ∈ L, x ∉ s.mem.out) :
    tWithinLoop a (b - a) s = storeLoop (((L.drop a).take (b - a)).map some) s := by
  have e := split3 (L := L) hab.1
  have := tWithinLoop_eq ((L.drop a).take (b - a)) s (L.take a) (L.drop b) (e ▸ hv)
    (by rw [← e]; simp; omega)
    (fun x hx => hm x (List.mem_of_mem_drop (List.mem_of_mem_take hx)))
  rwa [List.length_take, List.length_take, List.length_drop, Nat.min_eq_left (by omega),
    Nat.min_eq_left (by omega)] at this

theorem tExtWithin_own {s loc locB} (a b : Nat) (h : OwnL fl s loc locB) (ht : s.v.h.thin = true)
    (hal : s.v.h.alive = true) : OwnL fl (tExtWithin a b s).2 loc locB := by
  unfold tExtWithin
  split
  · rename_i hab
    obtain ⟨g1, g2, g3, g4, g5⟩ := h.reserve (b - a) ht hal
    obtain ⟨L, hv, -⟩ := g1.elim
    have hl : L.length = s.v.len := by rw [← hv.1, g2]
    simp only
    rw [tWithinLoop_eq_of_view hv (by rw [hl]; exact hab) (by rw [hl]; exact g4)
      (g1.view_notout hv)]
    exact (storeLoop_own _ _ g1 (by simp; omega)).1
  · exact h

/-- loop of `extend_iter`: up to the size hint the capacity was reserved up front, beyond it one
slot is reserved per item -/
theorem tExtIterLoop_own {loc locB} (min : Nat) : ∀ (k i : Nat) (s : St), OwnL fl s loc locB →
    s.v.h.thin = true → s.v.h.alive = true → (i < min → s.v.len + (min - i) ≤ s.v.cap) →
    OwnL fl (tExtIterLoop min i k s).2 loc locB
  | 0, _, _, h, _, _, _ => by simpa [tExtIterLoop] using h.tick
  | k + 1, i, s, h, ht, hal, hc => by
    unfold tExtIterLoop
    have h1 := h.genVal
    rcases hr : s.onMem Mem.genVal with ⟨_ | b, s'⟩ <;> rw [hr] at h1 <;> simp only at h1 ⊢
    · exact h1.1
    · have ht' : s'.v.h.thin = true := by rw [h1.2]; exact ht
      have hal' : s'.v.h.alive = true := by rw [h1.2]; exact hal
      split
      · rename_i hge
        obtain ⟨g1, g2, g3, g4, g5⟩ := h1.1.reserve 1 ht' hal'
        refine tExtIterLoop_own min k (i + 1) _ (g1.store (by omega)) (by simp [g3, ht'])
          (by simp [g3, hal']) (by intro; omega)
      · rename_i hlt
        have := hc (by omega)
        refine tExtIterLoop_own min k (i + 1) _ (h1.1.store (by rw [h1.2]; omega)) (by simp [ht'])
          (by simp [hal']) (by intro; simp [h1.2]; omega)

theorem tExtIter_own {s loc locB} (hint n : Nat) (h : OwnL fl s loc locB) (ht : s.v.h.thin = true)
    (hal : s.v.h.alive = true) : OwnL fl (tExtIter hint n s).2 loc locB := by
  unfold tExtIter
  obtain ⟨g1, g2, g3, g4, g5⟩ := h.reserve hint ht hal
  exact tExtIterLoop_own hint n 0 _ g1 (by rw [g3]; exact ht) (by rw [g3]; exact hal)
    (by intro; omega)


/-- what `with_capacity` returns -/
structure FreshThin (o : Vec) (c esz : Nat) (tracked : Bool) : Prop where
  len0 : o.len = 0
  esz_eq : o.h.esz = esz
  capeq : o.cap = roundCap esz (max c (minCap esz))
  thin : o.h.thin = true
  alive : o.h.alive = true
  tr : o.h.tracked = tracked
  pinit : PrefInit o.h

theorem FreshThin.cap {o c esz tracked} (h : FreshThin o c esz tracked) : c ≤ o.cap := by
  rw [h.capeq]; exact Nat.le_trans (Nat.le_max_left _ _) (roundCap_ge _ _)

theorem FreshThin.capfix {o c esz tracked} (h : FreshThin o c esz tracked) (hp : 0 < esz) :
    roundCap esz o.cap = o.cap := by
  rw [h.capeq]; exact roundCap_fix hp _

/-- if `P::default()` panics the buffer is leaked -/
theorem tWithCap_own {s loc locB} (c esz : Nat) (tracked : Bool) (h : OwnL fl s loc locB) :
    match tWithCap c esz tracked s with
    | (none, s') => OwnL fl s' loc locB ∧ s'.v = s.v ∧ s.mem.budget ≠ none
    | (some o, s') => s'.v = s.v ∧ FreshThin o c esz tracked ∧
        OwnL fl s' (prefL o.h ++ loc) (o.h.buf :: locB) ∧
        (s.mem.budget = none → s'.mem.budget = none) := by
  unfold tWithCap
  have h1 := h.alloc
  have hv : (s.onMem Mem.alloc).2.v = s.v := rfl
  have hb : (s.onMem Mem.alloc).1 = s.mem.nextBuf := rfl
  have hbud : (s.onMem Mem.alloc).2.mem.budget = s.mem.budget := rfl
  generalize s.onMem Mem.alloc = r at h1 hv hb hbud
  obtain ⟨b, s1⟩ := r
  simp only at h1 hv hb hbud ⊢
  subst hb
  have hcap : ∀ hd, ({ slots := uninits (roundCap esz (max c (minCap esz))), len := 0, h := hd } : Vec).cap
      = roundCap esz (max c (minCap esz)) := fun _ => by simp [Vec.cap, uninits]
  cases tracked with
  | false =>
    simp only [Bool.false_eq_true, if_false]
    exact ⟨hv, ⟨rfl, rfl, hcap _, rfl, rfl, rfl, fun _ h => by simp at h⟩, by simpa [prefL] using h1,
      fun hq => hbud.trans hq⟩
  | true =>
    simp only [if_true]
    have h2 := h1.genVal
    have hv2 : (s1.onMem Mem.genVal).2.v = s1.v := rfl
    have hq : s1.mem.budget = none → (s1.onMem Mem.genVal).1 ≠ none ∧
        (s1.onMem Mem.genVal).2.mem.budget = none := fun hq => by
      obtain ⟨m', e1, e2, -⟩ := Mem.genVal_of_none hq
      simp only [St.onMem_eq, e1]; exact ⟨nofun, e2⟩
    generalize s1.onMem Mem.genVal = r2 at h2 hv2 hq
    obtain ⟨_ | p, s2⟩ := r2 <;> simp only at h2 hv2 hq ⊢
    · exact ⟨h2.1.leakB, by rw [hv2, hv], fun hb => (hq (hbud.trans hb)).1 rfl⟩
    · exact ⟨by rw [hv2, hv], ⟨rfl, rfl, hcap _, rfl, rfl, rfl, fun _ _ _ => ⟨p, rfl⟩⟩,
        by simpa [prefL] using h2.1, fun hb => (hq (hbud.trans hb)).2⟩

theorem tDropVec_quiet (o : Vec) (s : St) (h : s.mem.budget = none) :
    (tDropVec o s).1 = false ∧ (tDropVec o s).2.mem.budget = none := by
  unfold tDropVec
  simp only [St.onMem_eq, St.withMem]
  obtain ⟨h1, h2⟩ := Mem.dropSlice_of_none (o.range 0 o.len) s.mem h
  simp only [h1, Bool.false_eq_true, if_false]
  by_cases htr : o.h.tracked = true
  · obtain ⟨h3, h4⟩ := Mem.dropSlot_of_none (x := o.h.pref) h2
    simp [htr, h3, Mem.free_budget, h4]
  · simp [htr, Mem.free_budget, h2]

theorem tDropVec_own {s loc locB} {o : Vec} {acc : List Nat} (ho : LocalVec o acc)
    (hthin : o.h.thin = true) (hal : o.h.alive = true) (hpi : PrefInit o.h)
    (h : OwnL fl s (acc ++ (prefL o.h ++ loc)) (o.h.buf :: locB)) :
    OwnL fl (tDropVec o s).2 loc locB := by
  unfold tDropVec
  rw [ho.range]
  have h1 := h.dropSlice
  have hp0 : fl = true → (s.onMem (Mem.dropSlice (acc.map .init))).1 = false :=
    fun hf => (Mem.dropSlice_of_none _ _ (h.budget_none hf)).1
  generalize s.onMem (Mem.dropSlice (acc.map .init)) = r at h1 hp0
  obtain ⟨p, s1⟩ := r
  simp only at h1 hp0 ⊢
  cases p
  · simp only [Bool.false_eq_true, if_false]
    by_cases htr : o.h.tracked = true
    · obtain ⟨pid, hp⟩ := hpi hthin htr hal
      have hpl : prefL o.h = [pid] := by simp [prefL, hthin, htr, hal, hp]
      rw [hpl] at h1
      have hds : Mem.dropSlot (.init pid) = Mem.dropId pid := by funext m; rfl
      simp only [htr, if_true, hp, hds]
      have h2 : OwnL fl (s1.onMem (Mem.dropId pid)).2 loc (o.h.buf :: locB) := OwnL.dropId h1
      generalize s1.onMem (Mem.dropId pid) = r2 at h2
      obtain ⟨q, s2⟩ := r2
      cases q
      · exact h2.free
      · exact h2.leakB
    · have hpl : prefL o.h = [] := by simp [prefL, htr]
      rw [hpl] at h1
      simp only [htr, Bool.false_eq_true, if_false]
      exact OwnL.free h1
  · simp only [if_true]
    exact (h1.leak (fun hf => by cases hp0 hf)).leakB


/-- As `tGuardedClone_eq`, into a local vector whose length is set later: the loop is the clone loop
of `from_slice_clone`. -/
theorem guardedCloneLocal_eq : ∀ (xs : List Slot) (j : Nat) (o : Vec) (s : St),
    guardedCloneLocal xs j o s =
      (match cloneIntoLocal xs (o.setLen j) s with
       | (true, o', s') =>
         (true, o'.setLen o.len, (s'.onMem (Mem.dropSlice (o'.range 0 o'.len))).2)
       | (false, o', s') => (false, o'.setLen o.len, s'))
  | [], _, _, _ => rfl
  | x :: xs, j, o, s => by
    simp only [guardedCloneLocal, cloneIntoLocal, St.onMem_eq]
    rcases s.mem.cloneSlot x with ⟨_ | b, m'⟩
    · rfl
    · dsimp only
      rw [guardedCloneLocal_eq xs (j + 1)]
      rfl

theorem tClone_own {s loc locB} (h : OwnL fl s loc locB) : OwnL fl (tClone s).2 loc locB := by
  unfold tClone
  obtain ⟨L, hvL, -⟩ := h.elim
  have h1 := tWithCap_own s.v.len s.v.h.esz s.v.h.tracked h
  rcases hr : tWithCap s.v.len s.v.h.esz s.v.h.tracked s with ⟨_ | o, s1⟩ <;> rw [hr] at h1 <;>
    simp only at h1 ⊢
  · exact h1.1
  · obtain ⟨hv, hf, ho, -⟩ := h1
    rw [hv, hvL.range, guardedCloneLocal_eq, Vec.setLen_self hf.len0]
    obtain ⟨acc', f1, f2, f3, f4, f5⟩ := cloneIntoLocal_own (loc := prefL o.h ++ loc)
      (locB := o.h.buf :: locB) L o [] s1 ho (LocalVec.nil hf.len0)
      (by rw [hf.len0, Nat.zero_add, ← hvL.1]; exact hf.cap) (ho.view_notout (hv ▸ hvL))
    generalize cloneIntoLocal (L.map .init) o s1 = r2 at f1 f2 f3 f4 f5 ⊢
    obtain ⟨p, o2, s2⟩ := r2
    simp only at f1 f2 f3 f4 f5 ⊢
    rw [← f3] at f2
    cases p
    · -- every element cloned: the length is set, the caller drops the clone
      simp only [Bool.false_eq_true, if_false]
      have hlen : s2.v.len = acc'.length := by rw [f4, hv, hvL.1, f5 rfl]; simp
      rw [hlen]
      exact tDropVec_own (o := (o2.setLen o.len).setLen acc'.length) ⟨rfl, f1.2⟩
        (f3 ▸ hf.thin) (f3 ▸ hf.alive) (f3 ▸ hf.pinit) f2
    · -- a clone panicked: the guard has dropped the clones, the unwinding drops the empty vector
      simp only [if_true]
      rw [f1.range]
      exact tDropVec_own (o := o2.setLen o.len) (LocalVec.nil hf.len0) (f3 ▸ hf.thin)
        (f3 ▸ hf.alive) (f3 ▸ hf.pinit) f2.dropSlice

theorem tAppend_own {s loc locB} (n : Nat) (h : OwnL fl s loc locB) (ht : s.v.h.thin = true)
    (hal : s.v.h.alive = true) : OwnL fl (tAppend n s).2 loc locB := by
  unfold tAppend
  obtain ⟨hl, hv, ho⟩ := mkVals_own n s h
  generalize mkVals n s = r at hl hv ho ⊢
  obtain ⟨ids, s1⟩ := r
  simp only at hl hv ho ⊢
  have h1 := ho.alloc
  have hv1 : (s1.onMem Mem.alloc).2.v = s1.v := rfl
  have hb1 : (s1.onMem Mem.alloc).1 = s1.mem.nextBuf := rfl
  generalize s1.onMem Mem.alloc = r at h1 hv1 hb1 ⊢
  obtain ⟨ob, s2⟩ := r
  simp only at h1 hv1 hb1 ⊢
  subst hb1
  obtain ⟨g1, g2, g3, g4, g5⟩ :=
    h1.reserve n (by rw [hv1, hv]; exact ht) (by rw [hv1, hv]; exact hal)
  have hr := fun c hd => (LocalVec.of_ids (c := c) (hd := hd) hl).range
  simp only at hr
  simp only [hr, Vec.setLen, Vec.range_zero_zero, Mem.markDropSlots, St.wrChunk_len]
  exact OwnL.free (hl ▸ g1.appendChunk (by rw [hl, g2]; exact g4))


theorem tSplitOff_own {s loc locB} (at_ : Nat) (h : OwnL fl s loc locB) :
    OwnL fl (tSplitOff at_ s).2 loc locB := by
  unfold tSplitOff
  split
  · rename_i hat
    have h1 := tWithCap_own (s.v.len - at_) s.v.h.esz s.v.h.tracked h
    simp only
    rcases hr : tWithCap (s.v.len - at_) s.v.h.esz s.v.h.tracked s with ⟨_ | o, s1⟩ <;>
      rw [hr] at h1 <;> simp only at h1 ⊢
    · exact h1.1
    · obtain ⟨hv, hf, ho, -⟩ := h1
      have hchk : decide (s.v.len - at_ ≤ o.cap) = true := by simpa using hf.cap
      simp only [St.chk, hchk, if_true]
      obtain ⟨tl, e1, e2, e3⟩ := ho.setLen_take (n := at_) (by rw [hv]; exact hat)
      rw [hv] at e1 e2
      rw [hv, e1]
      have hlv := LocalVec.writeChunk0 o tl (n := s.v.len - at_) e2.symm
      exact tDropVec_own hlv (by simp [Vec.setLen, Vec.writeChunk, hf.thin])
        (by simp [Vec.setLen, Vec.writeChunk, hf.alive])
        (by simpa [Vec.setLen, Vec.writeChunk] using hf.pinit)
        (by simpa [Vec.setLen, Vec.writeChunk] using e3)
  · exact h

theorem tDropVec_frame (o : Vec) (s : St) (v' : Vec) :
    (tDropVec o { s with v := v' }).2 = { (tDropVec o s).2 with v := v' } ∧
      (tDropVec o s).2.v = s.v := by
  unfold tDropVec
  simp only [St.onMem_eq, St.withMem]
  by_cases h1 : (Mem.dropSlice (o.range 0 o.len) s.mem).1 = true
  · simp [h1]
  · by_cases h2 : o.h.tracked = true
    · by_cases h3 : (Mem.dropSlot o.h.pref (Mem.dropSlice (o.range 0 o.len) s.mem).2).1 = true <;>
        simp [h1, h2, h3]
    · simp [h1, h2]

theorem OwnL.kill_thin {s loc locB} {L : List Nat} (h : OwnL fl s loc locB) (hv : LocalVec s.v L)
    (ht : s.v.h.thin = true) (hal : s.v.h.alive = true) :
    OwnL fl { s with v := { s.v with len := 0, h := { s.v.h with alive := false } } }
      (L ++ (prefL s.v.h ++ loc)) (s.v.h.buf :: locB) := by
  have ha := h.acct hv
  rw [bufL_live ht hal] at ha
  refine OwnL.intro (L := []) (LocalVec.nil rfl)
    ⟨fun _ _ h => by simp at h, fun _ h => by simp at h⟩ ?_
  simp only [prefL_dead, bufL_dead]
  exact (ha.perm (by perm_tac)).permB (by perm_tac)

theorem OwnL.adopt {s loc locB} {t : Vec} {L : List Nat}
    (h : OwnL fl s (prefL t.h ++ (L ++ loc)) (t.h.buf :: locB)) (hlen : s.v.len = 0)
    (hdead : s.v.h.alive = false) (hv : LocalVec t L) (hk : HdrOk t) (ht : t.h.thin = true)
    (hal : t.h.alive = true) : OwnL fl { s with v := t } loc locB := by
  have ha := h.acct (L := []) (LocalVec.nil hlen)
  rw [show prefL s.v.h = [] by simp [prefL, hdead], show bufL s.v.h = [] by simp [bufL, hdead]] at ha
  refine OwnL.intro hv hk ?_
  rw [bufL_live ht hal]
  exact (ha.perm (by perm_tac)).permB (by perm_tac)

theorem tDrop_own {s loc locB} (h : OwnL fl s loc locB) (ht : s.v.h.thin = true)
    (hal : s.v.h.alive = true) : OwnL fl (tDrop s).2 loc locB := by
  unfold tDrop
  obtain ⟨L, hv, -⟩ := h.elim
  have key := tDropVec_own hv ht hal h.hdrOk.1 (h.kill_thin hv ht hal)
  obtain ⟨f1, f2⟩ := tDropVec_frame s.v s { s.v with len := 0, h := { s.v.h with alive := false } }
  rw [f1] at key
  generalize tDropVec s.v s = r at key f2 ⊢
  obtain ⟨p, s1⟩ := r
  simp only at key f2 ⊢
  rw [f2]
  exact key

theorem tShrinkFit_own {s loc locB} (h : OwnL fl s loc locB) (ht : s.v.h.thin = true)
    (hal : s.v.h.alive = true) : OwnL fl (tShrinkFit s) loc locB := by
  unfold tShrinkFit
  split
  · exact h
  · obtain ⟨hpos, hfix⟩ := h.hdrOk.2 ht hal
    obtain ⟨-, r2, -, r4⟩ := Vec.setCapacity_room s.v.len hpos hfix
    exact h.realloc (fun L hv => hv.setCapacity _ (by rw [hv.1]; exact Nat.le_refl _)) r2 r4

theorem tReserve_own {s loc locB} (n : Nat) (h : OwnL fl s loc locB) (ht : s.v.h.thin = true)
    (hal : s.v.h.alive = true) : OwnL fl (s.reserve n) loc locB :=
  (h.reserve n ht hal).1


theorem moveAll_spec {src dst : Vec} {L : List Nat} (h : LocalVec src L)
    (hc : L.length ≤ dst.cap) :
    LocalVec (moveAll src dst).1 L ∧ (moveAll src dst).1.h = dst.h ∧
      (moveAll src dst).1.cap = dst.cap ∧ (moveAll src dst).2 = src.setLen 0 := by
  unfold moveAll
  rw [h.range]
  refine ⟨LocalVec.writeChunk0 dst L h.1, rfl, ?_, rfl⟩
  have := Vec.writeChunk_cap (v := dst) (d := 0) (X := L.map .init) (by simpa using hc)
  simpa [Vec.setLen, Vec.cap] using this

theorem iRoundtrip_spec {s : St} {L : List Nat} (hv : LocalVec s.v L) :
    (iRoundtrip s).1 = false ∧ Post s (iRoundtrip s).2 L ∧
      (iRoundtrip s).2.mem = s.mem.alloc.2.free s.mem.nextBuf := by
  unfold iRoundtrip
  have hle := hv.len_le
  have e1 := hv.1
  have hv0 : (s.onMem Mem.alloc).2.v = s.v := rfl
  have hm0 : (s.onMem Mem.alloc).2.mem = s.mem.alloc.2 := rfl
  have hb : (s.onMem Mem.alloc).1 = s.mem.nextBuf := rfl
  generalize s.onMem Mem.alloc = r at hv0 hm0 hb
  obtain ⟨b, s1⟩ := r
  simp only at hv0 hm0 hb ⊢
  subst hb
  rw [hv0]
  generalize ht0 : thinLocal s.v.h.esz s.v.len s.mem.nextBuf = t0
  have hcap0 : s.v.len ≤ t0.cap := by
    rw [← ht0]
    simp only [thinLocal, Vec.cap, uninits, List.length_replicate]
    exact Nat.le_trans (Nat.le_max_left _ _) (roundCap_ge _ _)
  have hbuf : t0.h.buf = s.mem.nextBuf := by rw [← ht0]; rfl
  obtain ⟨m1, m2, m3, m4⟩ := moveAll_spec (dst := t0) hv (by rw [← e1]; exact hcap0)
  have hchk1 : decide (s.v.len ≤ t0.cap) = true := by simpa using hcap0
  simp only [St.chk, hchk1, if_true, hv0]
  generalize moveAll s.v t0 = r1 at m1 m2 m3 m4 ⊢
  obtain ⟨t, v0⟩ := r1
  simp only at m1 m2 m3 m4 ⊢
  subst m4
  simp only [Vec.setLen, Vec.range_zero_zero, Mem.markDropSlots]
  have hcapi : L.length ≤ (iNew s.v.cap).cap := by rw [iNew_cap]; exact hle
  obtain ⟨n1, n2, n3, n4⟩ := moveAll_spec (dst := iNew s.v.cap) m1 hcapi
  have hcap' : ({ slots := s.v.slots, len := 0, h := s.v.h } : Vec).cap = s.v.cap := rfl
  have hchk2 : decide (s.v.len ≤ (iNew s.v.cap).cap) = true := by rw [e1]; simpa using hcapi
  simp only [hcap', hchk2, if_true]
  generalize moveAll t (iNew s.v.cap) = r2 at n1 n2 n3 n4 ⊢
  obtain ⟨i, t'⟩ := r2
  simp only at n1 n2 n3 n4 ⊢
  subst n4
  simp only [Vec.setLen, Vec.range_zero_zero, Mem.markDropSlots, m2, hbuf]
  exact ⟨trivial, ⟨⟨n1.1, n1.2⟩, by rw [← iNew_cap s.v.cap]; exact n3, rfl⟩, by rw [← hm0]; rfl⟩

theorem iRoundtrip_own {s loc locB} (h : OwnL fl s loc locB) : OwnL fl (iRoundtrip s).2 loc locB := by
  obtain ⟨L, hv, ha⟩ := h.elim
  obtain ⟨-, p, hm⟩ := iRoundtrip_spec hv
  exact h.of_post p (hm ▸ Acct.free ha.alloc)


theorem tNewQuiet_own {s loc locB} (esz : Nat) (tracked : Bool) (h : OwnL fl s loc locB)
    (hpos : 0 < esz) (hk0 : fl = true → s.v.len = 0 ∧ prefL s.v.h = []) :
    OwnL fl (tNewQuiet esz tracked s) loc locB := by
  have hk := (h.kill hk0).alloc
  generalize hsk : ({ s with v := { s.v with len := 0, h := { s.v.h with alive := false } } } : St)
    = sk at hk
  have hv : sk.v.len = 0 ∧ sk.v.h.alive = false ∧ sk.mem = s.mem := by subst hsk; exact ⟨rfl, rfl, rfl⟩
  have hfix : roundCap esz (uninits (roundCap esz (minCap esz))).length
      = (uninits (roundCap esz (minCap esz))).length := by
    simpa [uninits] using roundCap_fix hpos _
  unfold tNewQuiet
  simp only [St.onMem_eq, ← hv.2.2]
  cases tracked with
  | false =>
    exact OwnL.adopt (s := (sk.onMem Mem.alloc).2) (L := []) hk hv.1 hv.2.1
      (LocalVec.nil rfl) ⟨fun _ h => by simp at h, fun _ _ => ⟨hpos, hfix⟩⟩ rfl rfl
  | true =>
    exact OwnL.adopt (s := ((sk.onMem Mem.alloc).2.onMem Mem.mkVal).2) (L := [])
      hk.mkVal hv.1 hv.2.1 (LocalVec.nil rfl)
      ⟨fun _ _ _ => ⟨_, rfl⟩, fun _ _ => ⟨hpos, hfix⟩⟩ rfl rfl

/-- header fields that no operation changes (the prefix value and the buffer may be replaced by
the conversions) -/
structure HdrKeep (h h' : Hdr) : Prop where
  thin : h'.thin = h.thin
  esz : h'.esz = h.esz
  tracked : h'.tracked = h.tracked
  alive : h'.alive = h.alive

theorem HdrKeep.of_eq {h h' : Hdr} (e : h' = h) : HdrKeep h h' := by subst e; exact ⟨rfl, rfl, rfl, rfl⟩

structure PostT (s s' : St) (L' : List Nat) (cap' : Nat) : Prop where
  view : LocalVec s'.v L'
  cap : s'.v.cap = cap'
  hdr : HdrKeep s.v.h s'.v.h

theorem Post.toT {s s' : St} {L' : List Nat} (p : Post s s' L') : PostT s s' L' s.v.cap :=
  ⟨p.view, p.cap, HdrKeep.of_eq p.hdr⟩

/-- The round trip through `InlineVec<_, 16>`: for every fault position the invariant holds
afterwards (a panic while the emptied source is dropped leaks the elements; the caller goes on
with a fresh vector); on a fault-free run the same elements are back, in a buffer of the capacity
that `with_capacity(len)` gives. -/
theorem tRoundtrip_res {s loc locB} (h : OwnL fl s loc locB) (ht : s.v.h.thin = true)
    (hal : s.v.h.alive = true) : ∀ r, tRoundtrip s = some r → OwnL fl r.2 loc locB ∧
      (s.mem.budget = none → ∀ L, LocalVec s.v L → r.1 = false ∧
        PostT s r.2 L (roundCap s.v.h.esz (max L.length (minCap s.v.h.esz)))) := by
  intro r hr
  unfold tRoundtrip at hr
  split at hr
  · cases hr
  · rename_i hlen16
    obtain ⟨L, rest, e1, e2, e3, e4⟩ := h
    obtain ⟨hpos, -⟩ := e3.2 ht hal
    have hlv : LocalVec s.v L := ⟨e1, rest, e2⟩
    have hbuf : bufL s.v.h = [s.v.h.buf] := by simp [bufL, ht, hal]
    obtain ⟨m1, m2, m3, m4⟩ := moveAll_spec (dst := iNew rtCap) hlv
      (by simp [iNew, Vec.cap, uninits]; omega)
    have hk : OwnL fl { s with v := { s.v with len := 0, h := { s.v.h with alive := false } } }
        ([] ++ (prefL (s.v.setLen 0).h ++ (L ++ loc))) ((s.v.setLen 0).h.buf :: locB) :=
      (OwnL.kill_thin ⟨L, rest, e1, e2, e3, e4⟩ hlv ht hal).perm (by simp only [Vec.setLen]; perm_tac)
    have hlv0 : LocalVec (s.v.setLen 0) [] := ⟨rfl, s.v.slots, by simp [Vec.setLen]⟩
    have key := tDropVec_own hlv0 (by simpa [Vec.setLen] using ht)
      (by simpa [Vec.setLen] using hal) (by simpa [Vec.setLen] using e3.1) hk
    obtain ⟨f1, f2⟩ := tDropVec_frame (s.v.setLen 0) s
      { s.v with len := 0, h := { s.v.h with alive := false } }
    rw [f1] at key
    dsimp only at hr
    generalize moveAll s.v (iNew rtCap) = r1 at m1 m2 m3 m4 hr
    obtain ⟨i, v0⟩ := r1
    simp only at m1 m2 m3 m4 hr
    subst m4
    have hq := tDropVec_quiet (s.v.setLen 0) s
    generalize tDropVec (s.v.setLen 0) s = r2 at key f2 hr hq
    obtain ⟨p, s1⟩ := r2
    simp only at key f2 hr hq
    have key' : OwnL fl ({ s1 with v := { s.v.setLen 0 with h :=
        { (s.v.setLen 0).h with alive := false } } } : St) (L ++ loc) locB := key
    generalize hs2 : ({ s1 with v := { s.v.setLen 0 with h :=
        { (s.v.setLen 0).h with alive := false } } } : St) = s2 at key' hr
    have hv2 : s2.v = { s.v.setLen 0 with h := { (s.v.setLen 0).h with alive := false } } := by
      rw [← hs2]
    have hq2 : s.mem.budget = none → s2.mem.budget = none := fun hb => by
      rw [← hs2]; exact (hq hb).2
    cases p
    · simp only [Bool.false_eq_true, if_false] at hr
      have h1 := tWithCap_own s.v.len s.v.h.esz s.v.h.tracked key'
      rcases hw : tWithCap s.v.len s.v.h.esz s.v.h.tracked s2 with ⟨_ | t0, s3⟩ <;>
        rw [hw] at h1 hr <;> simp only at h1 hr
      · cases hr
        rw [m1.range]
        refine ⟨tNewQuiet_own _ _ h1.1.dropLoop hpos (fun _ => ?_), fun hb => ?_⟩
        · have hv3 : s3.v = s2.v := h1.2.1
          simp only [St.onMem_v, hv3, hv2]
          exact ⟨rfl, by simp [prefL]⟩
        · exact absurd (hq2 hb) h1.2.2
      · cases hr
        obtain ⟨hv3, hf, ho, -⟩ := h1
        have hchk : decide (s.v.len ≤ t0.cap) = true := by simpa using hf.cap
        obtain ⟨n1, n2, n3, n4⟩ := moveAll_spec (dst := t0) m1 (by rw [← e1]; exact hf.cap)
        simp only [St.chk, hchk, if_true]
        generalize moveAll i t0 = r3 at n1 n2 n3 n4 ⊢
        obtain ⟨t, i0⟩ := r3
        simp only at n1 n2 n3 n4 ⊢
        subst n4
        simp only [Vec.setLen, Vec.range_zero_zero, Mem.markDropSlots, St.withMem]
        have hkt : HdrOk t := ⟨by rw [n2]; exact hf.pinit, fun _ _ => by
          rw [n2, n3, hf.esz_eq]; exact ⟨hpos, hf.capfix hpos⟩⟩
        rw [← n2] at ho
        refine ⟨ho.adopt (by rw [hv3, hv2]; rfl) (by rw [hv3, hv2]) n1 hkt (by rw [n2]; exact hf.thin)
          (by rw [n2]; exact hf.alive), fun hb L' hv' => ?_⟩
        rw [hlv.unique hv'] at n1
        exact ⟨trivial, n1, by rw [n3, hf.capeq, hv'.1], by rw [n2, hf.thin, ht], by rw [n2, hf.esz_eq],
          by rw [n2, hf.tr], by rw [n2, hf.alive, hal]⟩
    · simp only [if_true] at hr
      cases hr
      have hnb : s.mem.budget = none → False := fun hb => by cases (hq hb).1
      exact ⟨tNewQuiet_own _ _ (key'.leak (fun hf => hnb (e4.budget_none hf))) hpos
        (fun hf => (hnb (e4.budget_none hf)).elim), fun hb => (hnb hb).elim⟩


theorem tRoundtrip_own {s loc locB} (h : OwnL fl s loc locB) (ht : s.v.h.thin = true)
    (hal : s.v.h.alive = true) : ∀ r, tRoundtrip s = some r → OwnL fl r.2 loc locB :=
  fun r hr => (tRoundtrip_res h ht hal r hr).1

/-- `extend` with `into_iter`, `size_hint` and the iterator's drop as fault points -/
theorem tExtend_own {s loc locB} (hint k : Nat) (h : OwnL fl s loc locB) (ht : s.v.h.thin = true)
    (hal : s.v.h.alive = true) : OwnL fl (tExtend hint k s).2 loc locB := by
  unfold tExtend
  simp only
  split
  · exact h.tick
  · split
    · exact h.tick.tick.tick
    · exact (tExtIter_own hint k h.tick.tick ht hal).tick

theorem tFromIterLoop_own {loc locB} (mn : Nat) : ∀ (k i : Nat) (o : Vec) (acc : List Nat)
    (s : St), OwnL fl s (acc ++ loc) locB → LocalVec o acc → 0 < o.h.esz →
    roundCap o.h.esz o.cap = o.cap → (i < mn → acc.length + (mn - i) ≤ o.cap) →
    ∃ acc', LocalVec (tFromIterLoop mn i k o s).2.1 acc' ∧
      (tFromIterLoop mn i k o s).2.1.h = o.h ∧
      OwnL fl (tFromIterLoop mn i k o s).2.2 (acc' ++ loc) locB
  | 0, i, o, acc, s, h, ho, _, _, _ => by
    simp only [tFromIterLoop]
    exact ⟨acc, ho, trivial, h.tick⟩
  | k + 1, i, o, acc, s, h, ho, hpos, hfix, hroom => by
    unfold tFromIterLoop
    have h1 := h.genVal
    rcases hr : s.onMem Mem.genVal with ⟨_ | a, s'⟩ <;> rw [hr] at h1 <;> simp only at h1 ⊢
    · exact ⟨acc, ho, trivial, h1.1⟩
    · have hle : acc.length ≤ o.cap := by
        obtain ⟨_, rest, e2⟩ := ho
        simp [Vec.cap, e2]
      have key : ∃ o1, (if i ≥ mn then o.reserve 1 else o) = o1 ∧ LocalVec o1 acc ∧ o1.h = o.h ∧
          acc.length < o1.cap ∧ roundCap o.h.esz o1.cap = o1.cap ∧
          (i + 1 < mn → acc.length + 1 + (mn - (i + 1)) ≤ o1.cap) := by
        by_cases hge : i ≥ mn
        · obtain ⟨r1, r2, r3, r4⟩ := Vec.reserve_room (v := o) 1 hpos hfix (by rw [ho.1]; exact hle)
          exact ⟨_, by rw [if_pos hge], ho.reserve 1, r2, by rw [ho.1] at r3; omega, r4,
            by intro; omega⟩
        · have := hroom (by omega)
          exact ⟨_, by rw [if_neg hge], ho, rfl, by omega, hfix, by intro; omega⟩
      obtain ⟨o1, e1, e2, e3, e4, e5, e6⟩ := key
      rw [e1]
      have hc : o1.len < o1.cap := by rw [e2.1]; exact e4
      have hchk : s'.chk (decide (o1.len < o1.cap)) = s' := by simp [St.chk, hc]
      rw [hchk]
      have hst : (o1.store a).h = o1.h := rfl
      have hcap : (o1.store a).cap = o1.cap := by simp [Vec.store, Vec.setLen, Vec.write, Vec.cap]
      obtain ⟨acc', f1, f2, f3⟩ := tFromIterLoop_own (loc := loc) (locB := locB) mn k (i + 1)
        (o1.store a) (acc ++ [a]) s'
        (h1.1.perm (by perm_tac)) (e2.store hc) (by rw [hst, e3]; exact hpos)
        (by rw [hst, e3, hcap]; exact e5) (by intro hh; rw [hcap]; simp; exact e6 hh)
      exact ⟨acc', f1, by rw [f2, hst, e3], f3⟩

theorem tFromIter_own {s loc locB} (hint k : Nat) (h : OwnL fl s loc locB)
    (ht : s.v.h.thin = true) (hal : s.v.h.alive = true) :
    OwnL fl (tFromIter hint k s).2 loc locB := by
  unfold tFromIter
  have hpos : 0 < s.v.h.esz := (h.hdrOk.2 ht hal).1
  simp only
  split
  · exact h.tick
  · split
    · exact h.tick.tick.tick
    · have h3 := tWithCap_own hint s.v.h.esz s.v.h.tracked h.tick.tick
      simp only [St.onMem_v] at h3 ⊢
      rcases hw : tWithCap hint s.v.h.esz s.v.h.tracked ((s.onMem Mem.tick).2.onMem Mem.tick).2
        with ⟨_ | o, s3⟩ <;> rw [hw] at h3 <;> simp only at h3 ⊢
      · exact h3.1.tick
      · obtain ⟨-, hf, ho, -⟩ := h3
        obtain ⟨acc', f1, f2, f3⟩ := tFromIterLoop_own (loc := prefL o.h ++ loc)
          (locB := o.h.buf :: locB) hint k 0 o [] s3 ho (LocalVec.nil hf.len0)
          (by rw [hf.esz_eq]; exact hpos) (by rw [hf.esz_eq]; exact hf.capfix hpos)
          (by intro; simpa using hf.cap)
        exact tDropVec_own f1 (by rw [f2]; exact hf.thin) (by rw [f2]; exact hf.alive)
          (by rw [f2]; exact hf.pinit) (by rw [f2]; exact f3.tick)

end HipVerif.Slots
