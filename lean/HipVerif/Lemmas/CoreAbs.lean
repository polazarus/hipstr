/-
The abstraction function `abs` through pool updates and the representation builders; what the
builders leave alone (`srcs`; they commute with pool updates); `NormOk` only looks at the pool;
`StepOk`: what is wanted of the result of every operation.
-/
import HipVerif.Lemmas.CorePrims

namespace HipVerif.Core
open HipVerif.Spec.Std

theorem abs_setH (s : State) (d : Nat) (v : Option Handle) :
    abs (setH s d v) = (abs s).set d (v.map (view s)) := by
  unfold abs
  have hf : (Option.map (view (setH s d v))) = (Option.map (view s)) := by
    funext o; cases o <;> simp
  rw [hf]
  simp [setH, List.map_set]

theorem abs_congr {s s1 : State} (hp : s1.pool = s.pool)
    (hv : ∀ k hd, getH s k = some hd → view s1 hd = view s hd) : abs s1 = abs s := by
  unfold abs
  rw [hp]
  apply List.map_congr_left
  intro o ho
  cases o with
  | none => rfl
  | some hd =>
    obtain ⟨k, hk, hke⟩ := List.getElem_of_mem ho
    exact congrArg some (hv k hd (by rw [getH_eq_getElem hk, hke]))

theorem sget_abs (s : State) (h : Nat) : sget (abs s) h = (getH s h).map (view s) := by
  unfold sget abs getH
  by_cases hl : h < s.pool.length
  · simp [hl]
  · simp [List.getElem?_eq_none (Nat.le_of_not_lt hl)]

theorem sget_set_same (p : SPool) (d : Nat) (x : Option (List UInt8)) (hl : d < p.length) :
    sget (p.set d x) d = x := by simp [sget, hl]

theorem sget_set_other (p : SPool) (d h : Nat) (x : Option (List UInt8)) (hne : d ≠ h) :
    sget (p.set d x) h = sget p h := by simp [sget, List.getElem?_set_ne hne]

theorem abs_length (s : State) : (abs s).length = s.pool.length := by simp [abs]

theorem sfree_abs (s : State) (d : Nat) : sfree (abs s) d = slotFree s d := by
  unfold sfree slotFree
  rw [abs_length, sget_abs]
  cases getH s d <;> rfl

theorem sget_set_free {p : SPool} {d : Nat} (hf : sfree p d = true) (x : Option (List UInt8)) :
    sget (p.set d x) d = x := by
  unfold sfree at hf
  simp only [Bool.and_eq_true, decide_eq_true_eq] at hf
  exact sget_set_same p d x hf.1

theorem sget_set_cases (p : SPool) (d h : Nat) (x : Option (List UInt8)) (v : List UInt8)
    (hg : sget (p.set d x) h = some v) : (x = some v ∧ d = h) ∨ sget p h = some v := by
  by_cases hne : d = h
  · subst hne
    by_cases hl : d < p.length
    · left; rw [sget_set_same _ _ _ hl] at hg; exact ⟨hg, rfl⟩
    · right
      have : p.set d x = p := List.set_eq_of_length_le (Nat.le_of_not_lt hl)
      rw [this] at hg; exact hg
  · right; rw [sget_set_other _ _ _ _ hne] at hg; exact hg

theorem sget_abs_some {s : State} {h : Nat} {v : List UInt8} (hg : sget (abs s) h = some v) :
    ∃ hd, getH s h = some hd ∧ view s hd = v := by
  rw [sget_abs] at hg
  cases hgh : getH s h with
  | none => rw [hgh] at hg; cases hg
  | some hd => rw [hgh] at hg; exact ⟨hd, rfl, by simpa using hg⟩

theorem sget_abs_of_getH {s : State} {h : Nat} {hd : Handle} (hg : getH s h = some hd) :
    sget (abs s) h = some (view s hd) := by
  rw [sget_abs, hg]; rfl

theorem sget_some_lt {p : SPool} {h : Nat} {v : List UInt8} (hg : sget p h = some v) : h < p.length := by
  unfold sget at hg
  by_cases hl : h < p.length
  · exact hl
  · rw [List.getElem?_eq_none (Nat.le_of_not_lt hl)] at hg; cases hg

theorem set_sget_self {p : SPool} {h : Nat} {v : List UInt8} (hg : sget p h = some v) : p.set h (some v) = p := by
  have hl := sget_some_lt hg
  unfold sget at hg
  apply List.ext_getElem
  · simp
  · intro i h1 h2
    by_cases he : h = i
    · subst he
      simp only [List.getElem_set_self]
      simp only [List.getElem?_eq_getElem hl, Option.getD_some] at hg
      exact hg.symm
    · simp [List.getElem_set_ne he]

theorem sget_abs_none {s : State} {h : Nat} (hg : getH s h = none) : sget (abs s) h = none := by
  rw [sget_abs, hg]; rfl

/-- `eraseRet` only forgets capacities -/
theorem eraseRet_eq {r r' : Ret} (h : eraseRet r = r') (hn : ∀ n, r' ≠ .nat n) : r = r' := by
  cases r with
  | nat n => exact absurd h.symm (hn 0)
  | _ => exact h

theorem slotFree_lt {s : State} {d : Nat} (hf : slotFree s d = true) : d < (abs s).length := by
  rw [abs_length]; exact (slotFree_iff.mp hf).1

theorem A.view_length {cfg : Cfg} {s : State} {hd : Handle} (hok : HandleOk cfg s hd) :
    (view s hd).length = hlen hd := by
  unfold HandleOk at hok
  unfold view hlen
  cases hr : hd.repr with
  | inline bs => rfl
  | borrowed a b c => rw [hr] at hok; simp; omega
  | heap o pb off len =>
    rw [hr] at hok
    obtain ⟨x, hx, _, _, hrng⟩ := hok
    simp [hx]; omega

theorem hlen_of_sget {cfg : Cfg} {s : State} (w : Wf cfg s) {h : Nat} {v : List UInt8} {hd : Handle}
    (hg : sget (abs s) h = some v) (hgh : getH s h = some hd) : hlen hd = v.length := by
  rw [sget_abs, hgh] at hg
  cases hg
  exact (A.view_length (w.handles h hd hgh)).symm

theorem abs_set_self {s : State} {h : Nat} {hd : Handle} (hg : getH s h = some hd) :
    (abs s).set h (some (view s hd)) = abs s := by
  have := abs_setH s h (some hd)
  rw [setH_self (getH_some_lt hg) hg] at this
  exact this.symm

theorem getH_bump (s : State) (n : Nat) (h : Nat) : getH { s with nextBuf := n } h = getH s h := rfl
theorem getI_bump (s : State) (n : Nat) (i : Nat) : getI { s with nextBuf := n } i = getI s i := rfl

theorem setH_bump (s : State) (n : Nat) (h : Nat) (v : Option Handle) :
    setH { s with nextBuf := n } h v = { setH s h v with nextBuf := n } := rfl

theorem setI_bump (s : State) (n : Nat) (i : Nat) (x : Inner) :
    setI { s with nextBuf := n } i x = { setI s i x with nextBuf := n } := rfl

theorem abs_bump (s : State) (n : Nat) : abs { s with nextBuf := n } = abs s :=
  abs_congr rfl (fun _ _ _ => view_congr rfl (fun _ => rfl))

/-! ### views through the builders -/

theorem view_setI_noref {s : State} {o : Nat} {x' : Inner} {hd : Handle}
    (hp : pointsTo o (some hd) = false) : view (setI s o x') hd = view s hd := by
  unfold view
  cases hr : hd.repr with
  | inline bs => rfl
  | borrowed a b c => rfl
  | heap ow pb off len =>
    have hne : o ≠ ow := by
      intro he; rw [pointsTo_of_heap hr, he] at hp; simp at hp
    simp [getI_setI_other _ _ _ _ hne]

theorem view_boxVec_old {cfg : Cfg} {s : State} {hd : Handle} (data : List UInt8) (cap buf : Nat)
    (hok : HandleOk cfg s hd) : view (boxVec s data cap buf).1 hd = view s hd := by
  unfold view
  cases hr : hd.repr with
  | inline bs => rfl
  | borrowed a b c => rfl
  | heap o pb off len =>
    obtain ⟨x, hx, _⟩ := (handleOk_heap hr).mp hok
    have : getI (boxVec s data cap buf).1 o = getI s o := getI_append_lt s _ o (getI_some_lt hx)
    simp [this]

theorem view_newHeap_old {cfg : Cfg} {s : State} {hd : Handle} (data : List UInt8) (cap : Nat)
    (hok : HandleOk cfg s hd) : view (newHeap s data cap).1 hd = view s hd :=
  view_boxVec_old (s := { s with nextBuf := s.nextBuf + 1 }) data cap s.nextBuf hok

theorem view_newHeap_new (s : State) (data : List UInt8) (cap : Nat) (t : Bool) :
    view (newHeap s data cap).1 { repr := (newHeap s data cap).2.1, tainted := t } = data := by
  rw [view_heap_eq (newHeap_rep s data cap) (getI_newHeap_new s data cap)]
  simp

theorem view_dropRepr (cfg : Cfg) (s : State) (r : Rep) (hd : Handle) :
    view (dropRepr cfg s r).1 hd = view s hd := by
  unfold dropRepr; cases r <;> simp [view_release]

/-! ### the builders never touch `srcs` -/

@[simp] theorem install_srcs (s1 : State) (d : Nat) (r : Rep) (t : Bool) (ret : Ret) (ev : List Event) :
    (install s1 d r t ret ev).1.srcs = s1.srcs := rfl

@[simp] theorem A.install_ret (s1 : State) (d : Nat) (r : Rep) (t : Bool) (ret : Ret) (ev : List Event) :
    (install s1 d r t ret ev).2.ret = ret := rfl
@[simp] theorem A.ok_fst (s1 : State) (ret : Ret) (ev : List Event) : (ok s1 ret ev).1 = s1 := rfl
@[simp] theorem A.ok_ret (s1 : State) (ret : Ret) (ev : List Event) : (ok s1 ret ev).2.ret = ret := rfl

@[simp] theorem incr_srcs (cfg : Cfg) (s : State) (o : Nat) : (incr cfg s o).1.srcs = s.srcs := by
  rcases hi : incr cfg s o with ⟨s1, b⟩
  cases b with
  | false => rw [incr_false hi]
  | true => obtain ⟨_, x, _, _, rfl⟩ := incr_true hi; rfl

@[simp] theorem dropRepr_srcs (cfg : Cfg) (s : State) (r : Rep) : (dropRepr cfg s r).1.srcs = s.srcs := by
  unfold dropRepr; cases r <;> simp [release_srcs]

@[simp] theorem fromSliceRepr_srcs (cfg : Cfg) (s : State) (bs : List UInt8) :
    (fromSliceRepr cfg s bs).1.srcs = s.srcs := by
  unfold fromSliceRepr; split <;> (try split) <;> rfl

@[simp] theorem fromVecRepr_srcs (cfg : Cfg) (s : State) (bs : List UInt8) (cap buf : Nat) :
    (fromVecRepr cfg s bs cap buf).1.srcs = s.srcs := by
  unfold fromVecRepr; split <;> rfl

@[simp] theorem cloneRepr_srcs (cfg : Cfg) (s : State) (hd : Handle) : (cloneRepr cfg s hd).1.srcs = s.srcs := by
  unfold cloneRepr
  cases hd.repr with
  | inline bs => rfl
  | borrowed a b c => rfl
  | heap o pb off len => simp only; split <;> first | rfl | exact incr_srcs ..

@[simp] theorem rangeRepr_srcs (cfg : Cfg) (s : State) (hd : Handle) (a b : Nat) :
    (rangeRepr cfg s hd a b).1.srcs = s.srcs := by
  unfold rangeRepr
  cases hd.repr with
  | inline bs => rfl
  | borrowed a b c => rfl
  | heap o pb off len => simp only; split <;> (try split) <;> first | rfl | exact incr_srcs ..

@[simp] theorem makeUnique_srcs (cfg : Cfg) (s : State) (hd : Handle) : (makeUnique cfg s hd).1.srcs = s.srcs := by
  unfold makeUnique
  cases hd.repr with
  | inline bs => rfl
  | borrowed a b c => exact fromSliceRepr_srcs ..
  | heap o pb off len => simp only; split <;> first | rfl | exact release_srcs ..

@[simp] theorem writeView_srcs (s : State) (r : Rep) (f : List UInt8 → List UInt8) :
    (writeView s r f).1.srcs = s.srcs := by
  unfold writeView
  cases r with
  | inline bs => rfl
  | borrowed a b c => rfl
  | heap o pb off len => simp only; cases getI s o <;> rfl

@[simp] theorem takeVec_srcs (cfg : Cfg) (s : State) (h : Nat) (hd : Handle) : (takeVec cfg s h hd).1.srcs = s.srcs := by
  unfold takeVec
  cases hd.repr with
  | inline bs => simp
  | borrowed a b c => simp
  | heap o pb off len =>
    simp only
    cases getI s o with
    | none => simp
    | some x => simp only; split <;> simp

theorem dropRepr_pool (cfg : Cfg) (s : State) (r : Rep) : (dropRepr cfg s r).1.pool = s.pool := by
  unfold dropRepr; cases r <;> simp [release_pool]

theorem dropRepr_nextBuf (cfg : Cfg) (s : State) (r : Rep) : (dropRepr cfg s r).1.nextBuf = s.nextBuf := by
  unfold dropRepr; cases r <;> simp [release_nextBuf]

/-! ### the builders do not read the pool: they commute with pool updates -/

theorem release_setH (cfg : Cfg) (s : State) (h : Nat) (v : Option Handle) (o : Nat) :
    release cfg (setH s h v) o = (setH (release cfg s o).1 h v, (release cfg s o).2) := by
  unfold release
  simp only [getI_setH]
  cases getI s o with
  | none => rfl
  | some x => simp only []; split <;> rfl

theorem incr_setH (cfg : Cfg) (s : State) (h : Nat) (v : Option Handle) (o : Nat) :
    incr cfg (setH s h v) o = (setH (incr cfg s o).1 h v, (incr cfg s o).2) := by
  unfold incr
  simp only [getI_setH]
  cases cfg.backend <;> cases getI s o <;> simp only [] <;> (try split) <;> rfl

theorem newHeap_setH (s : State) (h : Nat) (v : Option Handle) (data : List UInt8) (cap : Nat) :
    newHeap (setH s h v) data cap = (setH (newHeap s data cap).1 h v, (newHeap s data cap).2) := rfl

theorem dropRepr_setH (cfg : Cfg) (s : State) (h : Nat) (v : Option Handle) (r : Rep) :
    dropRepr cfg (setH s h v) r = (setH (dropRepr cfg s r).1 h v, (dropRepr cfg s r).2) := by
  unfold dropRepr; cases r <;> simp [release_setH]

theorem fromSliceRepr_setH (cfg : Cfg) (s : State) (h : Nat) (v : Option Handle) (bs : List UInt8) :
    fromSliceRepr cfg (setH s h v) bs = (setH (fromSliceRepr cfg s bs).1 h v, (fromSliceRepr cfg s bs).2) := by
  unfold fromSliceRepr; split <;> (try split) <;> rfl

theorem fromVecRepr_setH (cfg : Cfg) (s : State) (h : Nat) (v : Option Handle) (bs : List UInt8) (cap buf : Nat) :
    fromVecRepr cfg (setH s h v) bs cap buf =
      (setH (fromVecRepr cfg s bs cap buf).1 h v, (fromVecRepr cfg s bs cap buf).2) := by
  unfold fromVecRepr; split <;> rfl

theorem writeView_setH (s : State) (h : Nat) (v : Option Handle) (r : Rep) (f : List UInt8 → List UInt8) :
    writeView (setH s h v) r f = (setH (writeView s r f).1 h v, (writeView s r f).2) := by
  unfold writeView
  cases r with
  | inline bs => rfl
  | borrowed a b c => rfl
  | heap o pb off len =>
    simp only [getI_setH]
    cases getI s o <;> rfl

theorem makeUnique_setH (cfg : Cfg) (s : State) (h : Nat) (v : Option Handle) (hd : Handle) :
    makeUnique cfg (setH s h v) hd = (setH (makeUnique cfg s hd).1 h v, (makeUnique cfg s hd).2) := by
  unfold makeUnique
  cases hd.repr with
  | inline bs => rfl
  | borrowed a b c => simp only [view_setH, fromSliceRepr_setH]
  | heap o pb off len =>
    have hu : ownerUnique cfg (setH s h v) o = ownerUnique cfg s o := rfl
    simp only [hu, view_setH, newHeap_setH, release_setH]
    split <;> rfl

theorem normOk_pool {cfg : Cfg} {s s1 : State} (hn : NormOk cfg s) (hp : s1.pool = s.pool) : NormOk cfg s1 := by
  intro k hd hg; exact hn k hd (by unfold getH at hg ⊢; rw [← hp]; exact hg)

theorem normOk_setH {cfg : Cfg} {s : State} (hn : NormOk cfg s) (d : Nat) (v : Option Handle)
    (h : ∀ hd, v = some hd → hd.tainted = false → isNormalized cfg hd = true) :
    NormOk cfg (setH s d v) := by
  intro k hd hg ht
  by_cases he : d = k
  · subst he
    by_cases hl : d < s.pool.length
    · rw [getH_setH_same _ _ _ hl] at hg; exact h hd hg ht
    · have : (setH s d v).pool = s.pool := List.set_eq_of_length_le (Nat.le_of_not_lt hl)
      exact normOk_pool hn this d hd hg ht
  · rw [getH_setH_other _ _ _ _ he] at hg; exact hn k hd hg ht

/-- slot `h` of `s` is rewritten, whatever else the state `s1` differs in outside the pool -/
theorem normOk_put {cfg : Cfg} {s s1 : State} (hn : NormOk cfg s) {h : Nat}
    (hp : (setH s1 h none).pool = (setH s h none).pool) (v : Option Handle)
    (hv : ∀ hd, v = some hd → hd.tainted = false → isNormalized cfg hd = true) : NormOk cfg (setH s1 h v) := by
  rw [← setH_setH s1 h none v]
  exact normOk_setH (normOk_pool (normOk_setH hn h none nofun) hp) h v hv

theorem normOk_install {cfg : Cfg} {s s1 : State} (hn : NormOk cfg s) (hp : s1.pool = s.pool) (d : Nat) (r : Rep)
    (t : Bool) (ret : Ret) (ev : List Event) (h : t = false → isNormalized cfg ⟨r, t⟩ = true) :
    NormOk cfg (install s1 d r t ret ev).1 :=
  normOk_setH (normOk_pool hn hp) d _ (fun _ hv ht => by cases hv; exact h ht)

/-- The result `r` of an operation on the well-formed `s`, against the answer `q` of the
specification: the invariant and the lineage invariant are kept, every handle reads what the
specification says, the returned value is the specified one. -/
structure StepOk (cfg : Cfg) (s : State) (r : State × Out) (q : SPool × Ret) : Prop where
  wf : Wf cfg r.1
  norm : NormOk cfg s → NormOk cfg r.1
  abs_eq : abs r.1 = q.1
  ret_eq : eraseRet r.2.ret = q.2

theorem StepOk.same {cfg : Cfg} {s : State} (w : Wf cfg s) (ret : Ret) (ev : List Event) :
    StepOk cfg s (ok s ret ev) (abs s, eraseRet ret) := ⟨w, id, rfl, rfl⟩

theorem StepOk.refines {cfg : Cfg} {s : State} {r : State × Out} {q : SPool × Ret} (h : StepOk cfg s r q) :
    q = (abs r.1, eraseRet r.2.ret) := by
  rw [h.abs_eq, h.ret_eq]

end HipVerif.Core
