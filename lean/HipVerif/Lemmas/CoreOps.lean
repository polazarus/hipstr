/-
Every operation of the Core state machine but the slice family (`CoreOpsSlice.lean`), one
theorem each: the result of `step` is `StepOk` against the answer of `Spec.Std.step`.  Model and
specification branch on the same tests, so each proof walks the two together once.
-/
import HipVerif.Lemmas.CoreBuilt
import HipVerif.Lemmas.CoreStepEq

namespace HipVerif.Core
open HipVerif.Spec.Std HipVerif.Core.A

variable {cfg : Cfg} {s : State}

theorem setAt_length (i : Nat) (b : UInt8) (l : List UInt8) : (setAt l i b).length = l.length := by
  simp [setAt]

theorem growCap_ge (cap req : Nat) : req ≤ growCap cap req := by
  unfold growCap; omega

theorem growCap_pos (cap req : Nat) : 0 < growCap cap req := by
  unfold growCap; omega

theorem dropIf_eq (cfg : Cfg) (s : State) (hd : Handle) :
    (if isInline hd = true then ((s, []) : State × List Event) else dropRepr cfg s hd.repr) =
      dropRepr cfg s hd.repr := by
  unfold isInline
  cases hd.repr <;> simp [dropRepr]

/-! ### combinators for `StepOk` -/

theorem StepOk.congr {r : State × Out} {q q' : SPool × Ret} (k : StepOk cfg s r q) (h : q = q') :
    StepOk cfg s r q' := h ▸ k

/-- the counter of buffer identities is no part of the pool, which is all `NormOk` reads: a result
that is fine over the state with a fresh identity taken is fine over the state itself -/
theorem StepOk.of_bump {n : Nat} {r : State × Out} {q : SPool × Ret} (k : StepOk cfg { s with nextBuf := n } r q) :
    StepOk cfg s r q :=
  ⟨k.wf, fun hn => k.norm (normOk_pool hn rfl), k.abs_eq, k.ret_eq⟩

theorem wf_bump (w : Wf cfg s) : Wf cfg { s with nextBuf := s.nextBuf + 1 } :=
  (wf_iff_wfx ..).mpr (wfx_bump ((wf_iff_wfx ..).mp w))

/-- The slot protocol of the harness: a destination slot must be free and a source slot occupied, else
the answer is `badOp` on both sides (no Rust call corresponds to it) and the state stays. -/
theorem StepOk.guard {c : Prop} [Decidable c] {r : State × Out} {q : SPool × Ret} {ret : Ret} {ev : List Event}
    (w : Wf cfg s) (k : c → StepOk cfg s r q) :
    StepOk cfg s (if c then r else ok s ret ev) (if c then q else (abs s, eraseRet ret)) := by
  split
  · exact k ‹_›
  · exact .same w _ _

theorem StepOk.on_slot {f : Handle → State × Out} {q : List UInt8 → SPool × Ret} (w : Wf cfg s) (h : Nat)
    (k : ∀ hd, getH s h = some hd → StepOk cfg s (f hd) (q (view s hd))) :
    StepOk cfg s (onSlot s h f) (sOnSlot (abs s) h q) := by
  unfold onSlot sOnSlot
  rw [sget_abs]
  cases hg : getH s h with
  | none => exact .same w _ _
  | some hd => exact k hd hg

theorem ok_new (d : Nat) (w : Wf cfg s) (flag : Bool) :
    StepOk cfg s (step cfg s (.new d)) (Spec.Std.step cfg.icap s.srcs (abs s) (.new d) flag) := by
  simp only [step_new, spec_new, sfree_abs]
  exact .guard w fun hf => (built_inline w [] (Nat.zero_le _)).stepOk hf (fun _ _ => rfl) _ _

theorem ok_fromSlice (d : Nat) (bs : List UInt8) (w : Wf cfg s) (flag : Bool) :
    StepOk cfg s (step cfg s (.fromSlice d bs)) (Spec.Std.step cfg.icap s.srcs (abs s) (.fromSlice d bs) flag) := by
  simp only [step_fromSlice, spec_fromSlice, sfree_abs]
  exact .guard w fun hf => (built_fromSlice w bs).stepOk hf (fun _ _ => norm_fromSlice ..) _ _

theorem ok_fromVec (d : Nat) (bs : List UInt8) (cap : Nat) (w : Wf cfg s) (flag : Bool) :
    StepOk cfg s (step cfg s (.fromVec d bs cap))
      (Spec.Std.step cfg.icap s.srcs (abs s) (.fromVec d bs cap) flag) := by
  simp only [step_fromVec, spec_fromVec, sfree_abs]
  split
  · rename_i hf
    simp only [Bool.and_eq_true, decide_eq_true_eq] at hf
    -- the caller's Vec lives in the fresh buffer `s.nextBuf`
    have b := built_fromVec (wf_bump w) bs cap s.nextBuf hf.2 (Nat.lt_succ_self _)
      (fun j y hy _ he => by have := w.bufFresh j y hy; omega)
    exact b.rebase.stepOk hf.1 (fun _ _ => norm_fromVec ..) _ _
  · exact .same w _ _

theorem ok_borrowed (d src off len : Nat) (w : Wf cfg s) (flag : Bool) :
    StepOk cfg s (step cfg s (.borrowed d src off len))
      (Spec.Std.step cfg.icap s.srcs (abs s) (.borrowed d src off len) flag) := by
  simp only [step_borrowed, spec_borrowed, sfree_abs]
  split
  · rename_i hf
    simp only [Bool.and_eq_true, decide_eq_true_eq] at hf
    exact (built_borrowed w src off len hf.1.2).stepOk hf.1.1 (fun _ _ => rfl) _ _
  · exact .same w _ _

theorem ok_withCapacity (d n : Nat) (w : Wf cfg s) (flag : Bool) :
    StepOk cfg s (step cfg s (.withCapacity d n))
      (Spec.Std.step cfg.icap s.srcs (abs s) (.withCapacity d n) flag) := by
  simp only [step_withCapacity, spec_withCapacity, sfree_abs]
  split
  · split
    · exact (built_inline w [] (Nat.zero_le _)).stepOk ‹_› (fun _ _ => rfl) _ _
    · exact (built_newHeap w [] n (Nat.zero_le _)).stepOk (t := true) ‹_› (fun _ ht => nomatch ht) _ _
  · exact .same w _ _

theorem ok_inline (d : Nat) (bs : List UInt8) (w : Wf cfg s) (flag : Bool) :
    StepOk cfg s (step cfg s (.inline d bs)) (Spec.Std.step cfg.icap s.srcs (abs s) (.inline d bs) flag) := by
  simp only [step_inline, spec_inline, sfree_abs]
  split
  · split
    · exact (built_inline w bs ‹_›).stepOk ‹_› (fun _ _ => rfl) _ _
    · exact .same w _ _
  · exact .same w _ _

theorem ok_tryInline (d : Nat) (bs : List UInt8) (w : Wf cfg s) (flag : Bool) :
    StepOk cfg s (step cfg s (.tryInline d bs)) (Spec.Std.step cfg.icap s.srcs (abs s) (.tryInline d bs) flag) := by
  simp only [step_tryInline, spec_tryInline, sfree_abs]
  split
  · split
    · exact (built_inline w bs ‹_›).stepOk ‹_› (fun _ _ => rfl) _ _
    · exact .same w _ _
  · exact .same w _ _

theorem ok_clone (h d : Nat) (w : Wf cfg s) (flag : Bool) :
    StepOk cfg s (step cfg s (.clone h d)) (Spec.Std.step cfg.icap s.srcs (abs s) (.clone h d) flag) := by
  simp only [step_clone, spec_clone, sfree_abs]
  refine .on_slot w h fun hd hg => ?_
  have hok := w.handles h hd hg
  exact .guard w fun hf => (built_clone w hok).stepOk hf (fun hn ht => by rw [norm_clone hok]; exact hn h hd hg ht) _ _

theorem ok_repeat (h d n : Nat) (w : Wf cfg s) (flag : Bool) :
    StepOk cfg s (step cfg s (.repeat h d n)) (Spec.Std.step cfg.icap s.srcs (abs s) (.repeat h d n) flag) := by
  simp only [step_repeat, spec_repeat, sfree_abs]
  refine .on_slot w h fun hd hg => ?_
  have hok := w.handles h hd hg
  have hvl := view_length hok
  have hl : (List.replicate n (view s hd)).flatten.length = hlen hd * n := by simp [hvl, Nat.mul_comm]
  simp only [hvl]
  split
  · rename_i hf
    split
    · exact (built_clone w hok).stepOk hf (fun hn ht => by rw [norm_clone hok]; exact hn h hd hg ht) _ _
    · split
      · split
        · exact (built_inline w _ (by rw [hl]; assumption)).stepOk hf (fun _ _ => rfl) _ _
        · exact (built_newHeap w _ _ (by rw [hl]; exact Nat.le_refl _)).stepOk hf
            (fun _ _ => norm_newHeap _ _ _ _ _ (by rw [hl]; omega)) _ _
      · exact .same w _ _
  · exact .same w _ _

theorem wf_op_repeat (h d n : Nat) (w : Wf cfg s) : Wf cfg (step cfg s (.repeat h d n)).1 :=
  (ok_repeat h d n w true).wf

theorem norm_op_repeat (h d n : Nat) (w : Wf cfg s) (hn : NormOk cfg s) : NormOk cfg (step cfg s (.repeat h d n)).1 :=
  (ok_repeat h d n w true).norm hn

theorem asciiInstall_ok (w : Wf cfg s) {h d : Nat} {hd : Handle} (hg : getH s h = some hd)
    (hf : slotFree s d = true) (g : UInt8 → UInt8) :
    StepOk cfg s (asciiInstall cfg s hd d g) ((abs s).set d (some ((view s hd).map g)), .unit) := by
  have hok := w.handles h hd hg
  have b0 := built_clone w hok
  obtain ⟨b1, ho⟩ := built_makeUnique b0 hd.tainted
  exact (built_writeView b1 ho (fun w => w.map g) (fun _ => List.length_map ..)).stepOk hf
    (fun hn ht => by
      rw [norm_writeView]
      exact norm_makeUnique b0 _ _ (by rw [norm_clone hok]; exact hn h hd hg ht)) _ _

theorem ok_toAsciiLower (h d : Nat) (w : Wf cfg s) (flag : Bool) :
    StepOk cfg s (step cfg s (.toAsciiLower h d))
      (Spec.Std.step cfg.icap s.srcs (abs s) (.toAsciiLower h d) flag) := by
  simp only [step_toAsciiLower, spec_toAsciiLower, sfree_abs]
  refine .on_slot w h fun hd hg => ?_
  exact .guard w fun hf => asciiInstall_ok w hg hf _

theorem ok_toAsciiUpper (h d : Nat) (w : Wf cfg s) (flag : Bool) :
    StepOk cfg s (step cfg s (.toAsciiUpper h d))
      (Spec.Std.step cfg.icap s.srcs (abs s) (.toAsciiUpper h d) flag) := by
  simp only [step_toAsciiUpper, spec_toAsciiUpper, sfree_abs]
  refine .on_slot w h fun hd hg => ?_
  exact .guard w fun hf => asciiInstall_ok w hg hf _

theorem StepOk.drop (w : Wf cfg s) {h : Nat} {hd : Handle} (hg : getH s h = some hd) (ret : Ret) (ev : List Event) :
    StepOk cfg s (ok (setH (dropRepr cfg s hd.repr).1 h none) ret ev) ((abs s).set h none, eraseRet ret) := by
  have b := (built_moved w hg).dropped [] (Nat.zero_le _)
  rw [dropRepr_setH] at b
  exact ⟨b.wf_state, fun hn => normOk_put hn b.pool none nofun, b.abs_eq.trans (abs_setH s h none), rfl⟩

theorem StepOk.drop_put (w : Wf cfg s) {h : Nat} {hd : Handle} (hg : getH s h = some hd) (bs : List UInt8)
    (hbs : bs.length ≤ cfg.icap) (ret : Ret) (ev : List Event) :
    StepOk cfg s (ok (setH (dropRepr cfg s hd.repr).1 h (some { hd with repr := .inline bs })) ret ev)
      ((abs s).set h (some bs), eraseRet ret) := by
  have b := (built_moved w hg).dropped bs hbs
  rw [dropRepr_setH] at b
  exact b.stepOk_put hg (fun _ _ => rfl) ret ev

theorem ok_drop (h : Nat) (w : Wf cfg s) (flag : Bool) :
    StepOk cfg s (step cfg s (.drop h)) (Spec.Std.step cfg.icap s.srcs (abs s) (.drop h) flag) := by
  simp only [step_drop, spec_drop]
  refine .on_slot w h fun hd hg => ?_
  exact StepOk.drop w hg _ _

theorem ok_intoBorrowed (h : Nat) (w : Wf cfg s) (flag : Bool)
    (hfl : flag = retFlag (step cfg s (.intoBorrowed h)).2.ret) :
    StepOk cfg s (step cfg s (.intoBorrowed h)) (Spec.Std.step cfg.icap s.srcs (abs s) (.intoBorrowed h) flag) := by
  simp only [step_intoBorrowed, spec_intoBorrowed] at hfl ⊢
  refine .on_slot w h fun hd hg => ?_
  rw [onSlot_some hg] at hfl
  cases hr : hd.repr with
  | borrowed a b c =>
    rw [hr] at hfl
    have := StepOk.drop w hg (.bytes (view s hd)) []
    rw [hr] at this
    rw [hfl]; exact this
  | inline bs => rw [hr] at hfl; rw [hfl]; exact .same w _ _
  | heap o pb off len => rw [hr] at hfl; rw [hfl]; exact .same w _ _

theorem ok_intoOwned (h d : Nat) (w : Wf cfg s) (flag : Bool) :
    StepOk cfg s (step cfg s (.intoOwned h d)) (Spec.Std.step cfg.icap s.srcs (abs s) (.intoOwned h d) flag) := by
  simp only [step_intoOwned, spec_intoOwned, sfree_abs]
  refine .on_slot w h fun hd hg => ?_
  split
  · rename_i hf
    have hf' := slotFree_moved hg hf
    have habs : abs (setH s h none) = (abs s).set h none := by rw [abs_setH]; rfl
    have hn' : NormOk cfg s → NormOk cfg (setH s h none) := fun hn => normOk_setH hn h none nofun
    rw [← habs]
    -- the value moves from slot `h` to slot `d`; a borrowed one is copied first
    have moved : StepOk cfg s (install (setH s h none) d hd.repr hd.tainted .unit [])
        ((abs (setH s h none)).set d (some (view s hd)), .unit) :=
      have k := (built_moved w hg).installed hf' hd.tainted .unit []
      ⟨k.1, fun hn => normOk_install (hn' hn) rfl d _ _ _ _ (fun ht => hn h hd hg ht), k.2, rfl⟩
    cases hr : hd.repr with
    | borrowed a b c =>
      have b1 := built_fromSlice (wf_moved w hg (by unfold isHeap; rw [hr])) (view s hd)
      rw [fromSliceRepr_setH] at b1
      have k := b1.stepOk hf' (t := hd.tainted) (fun _ _ => norm_fromSlice ..) .unit (fromSliceRepr cfg s (view s hd)).2.2
      exact ⟨k.wf, fun hn => k.norm (hn' hn), k.abs_eq, k.ret_eq⟩
    | inline bs => rw [hr] at moved; exact moved
    | heap o pb off len => rw [hr] at moved; exact moved
  · exact .same w _ _

/-- `truncate` without its closing `debug_assert!(self.is_normalized())`, which holds on every
branch: an inline or borrowed value is normalised, a heap one stays longer than the inline capacity -/
theorem truncateOp_eq {h : Nat} {hd : Handle} (hg : getH s h = some hd) (n : Nat) (ret : Ret) :
    truncateOp cfg s h hd n ret =
      if n < hlen hd then
        match hd.repr with
        | .heap owner ptrBuf off _ =>
          if n ≤ cfg.icap then
            ok (setH (release cfg s owner).1 h (some { hd with repr := .inline ((view s hd).take n) })) ret
              (release cfg s owner).2
          else ok (setH s h (some { hd with repr := .heap owner ptrBuf off n })) ret []
        | .inline bs => ok (setH s h (some { hd with repr := .inline (bs.take n) })) ret []
        | .borrowed src off _ => ok (setH s h (some { hd with repr := .borrowed src off n })) ret []
      else ok s ret [] := by
  have hl := getH_some_lt hg
  have key : ∀ (s1 : State) (hd' : Handle) (ev : List Event), s1.pool = s.pool →
      getH (ok (setH s1 h (some hd')) ret ev).1 h = some hd' :=
    fun s1 hd' ev hp => getH_setH_same _ _ _ (by rw [hp]; exact hl)
  unfold truncateOp
  split
  · cases hd.repr with
    | inline bs =>
      have hnm : isNormalized cfg { hd with repr := .inline (bs.take n) } = true := rfl
      simp only [key s _ [] rfl, dbgFails, hnm, Bool.not_true, Bool.and_false, Bool.false_eq_true, if_false]
    | borrowed a b c =>
      have hnm : isNormalized cfg { hd with repr := .borrowed a b n } = true := rfl
      simp only [key s _ [] rfl, dbgFails, hnm, Bool.not_true, Bool.and_false, Bool.false_eq_true, if_false]
    | heap o pb off len =>
      simp only
      by_cases hi : n ≤ cfg.icap
      · have hnm : isNormalized cfg { hd with repr := .inline ((view s hd).take n) } = true := rfl
        simp only [hi, if_true, key _ _ _ (release_pool cfg s o), dbgFails, hnm, Bool.not_true, Bool.and_false,
          Bool.false_eq_true, if_false]
      · have hnm : isNormalized cfg { hd with repr := .heap o pb off n } = true := by
          rw [isNormalized_heap]; exact decide_eq_true (by omega)
        simp only [hi, if_false, key s _ [] rfl, dbgFails, hnm, Bool.not_true, Bool.and_false, Bool.false_eq_true]
  · rfl

theorem truncateOp_ok (w : Wf cfg s) {h : Nat} {hd : Handle} (hg : getH s h = some hd) (n : Nat) (ret : Ret) :
    StepOk cfg s (truncateOp cfg s h hd n ret) ((abs s).set h (some ((view s hd).take n)), eraseRet ret) := by
  have hok := w.handles h hd hg
  have hvl := view_length hok
  rw [truncateOp_eq hg]
  split
  · rename_i hn
    cases hr : hd.repr with
    | inline bs =>
      have hnh : isHeap hd = false := by unfold isHeap; rw [hr]
      rw [view_inline_eq hr]
      exact (built_inline (wf_moved w hg hnh) (bs.take n)
        (by have := (handleOk_inline hr).mp hok; simp only [List.length_take]; omega)).stepOk_put hg
        (fun _ _ => rfl) ret []
    | borrowed a b c =>
      have hnh : isHeap hd = false := by unfold isHeap; rw [hr]
      have hnc : n < c := by rw [hlen_borrowed hr] at hn; exact hn
      rw [view_borrowed_eq hr, List.take_take, Nat.min_eq_left (Nat.le_of_lt hnc)]
      exact (built_borrowed (wf_moved w hg hnh) a b n
        (by have := (handleOk_borrowed hr).mp hok; show b + n ≤ (s.srcs[a]?.getD []).length; omega)).stepOk_put hg (fun _ _ => rfl) ret []
    | heap o pb off len =>
      have hnc : n < len := by rw [hlen_heap hr] at hn; exact hn
      obtain ⟨x, hx, hlive, hpb, hrng⟩ := (handleOk_heap hr).mp hok
      simp only
      split
      · have := StepOk.drop_put w hg ((view s hd).take n) (by simp only [List.length_take]; omega) ret
          (release cfg s o).2
        rw [hr] at this
        exact this
      · have b0 := built_moved w hg
        rw [hr] at b0
        have b1 : Built cfg (setH s h none) (setH s h none) (.heap o pb off n) ((view s hd).take n) :=
          { pool := rfl, srcs := rfl, views := fun _ _ _ => rfl,
            view_new := by
              rw [view_heap_eq rfl (show getI (setH s h none) o = some x from hx), view_heap_eq hr hx,
                List.take_take, Nat.min_eq_left (Nat.le_of_lt hnc)]
            wf := ⟨b0.wf.1, x, hx, hpb, by omega⟩ }
        exact b1.stepOk_put hg (fun _ _ => by rw [isNormalized_heap]; exact decide_eq_true (by omega)) ret []
  · exact (StepOk.same w ret []).congr (by rw [List.take_of_length_le (by omega), abs_set_self hg])

theorem ok_truncate (h n : Nat) (w : Wf cfg s) (flag : Bool) :
    StepOk cfg s (step cfg s (.truncate h n)) (Spec.Std.step cfg.icap s.srcs (abs s) (.truncate h n) flag) := by
  simp only [step_truncate, spec_truncate]
  refine .on_slot w h fun hd hg => ?_
  exact truncateOp_ok w hg n .unit

theorem ok_clear (h : Nat) (w : Wf cfg s) (flag : Bool) :
    StepOk cfg s (step cfg s (.clear h)) (Spec.Std.step cfg.icap s.srcs (abs s) (.clear h) flag) := by
  simp only [step_clear, spec_clear]
  refine .on_slot w h fun hd hg => ?_
  exact truncateOp_ok w hg 0 .unit

theorem ok_pop (h : Nat) (w : Wf cfg s) (flag : Bool) :
    StepOk cfg s (step cfg s (.pop h)) (Spec.Std.step cfg.icap s.srcs (abs s) (.pop h) flag) := by
  simp only [step_pop, spec_pop]
  refine .on_slot w h fun hd hg => ?_
  split
  · exact .same w _ _
  · rw [List.dropLast_eq_take]; exact truncateOp_ok w hg _ _

theorem shrinkToOp_ok (w : Wf cfg s) {h : Nat} {hd : Handle} (hg : getH s h = some hd) (n : Nat) :
    StepOk cfg s (shrinkToOp cfg s h hd n) (abs s, .unit) := by
  have hok := w.handles h hd hg
  have hvl := view_length hok
  unfold shrinkToOp
  cases hr : hd.repr with
  | inline bs => exact .same w _ _
  | borrowed a b c => exact .same w _ _
  | heap o pb off len =>
    rw [hlen_heap hr] at hvl
    simp only
    split
    · cases hx : getI s o with
      | none => exact .same w _ _
      | some x =>
        simp only
        split
        · exact .same w _ _
        · -- a new owner with exactly `max n len` bytes of capacity; the old share is released
          have b := (built_moved w hg).reheap (view s hd) (max n len) (by omega)
          simp only [newHeap_setH, dropRepr_setH] at b
          rw [hr] at b
          exact (b.stepOk_put hg (t := hd.tainted) (fun hn ht => by
            have := hn h hd hg ht
            rw [isNormalized_repr cfg (hd' := ⟨.heap o pb off len, hd.tainted⟩) hr, isNormalized_heap] at this
            exact norm_newHeap _ _ _ _ _ (by rw [hvl]; exact of_decide_eq_true this)) .unit _).congr
            (by rw [abs_set_self hg]; rfl)
    · have := StepOk.drop_put w hg (view s hd) (by omega) .unit (release cfg s o).2
      rw [hr] at this
      exact this.congr (by rw [abs_set_self hg]; rfl)

theorem ok_shrinkTo (h n : Nat) (w : Wf cfg s) (flag : Bool) :
    StepOk cfg s (step cfg s (.shrinkTo h n)) (Spec.Std.step cfg.icap s.srcs (abs s) (.shrinkTo h n) flag) := by
  simp only [step_shrinkTo, spec_shrinkTo]
  refine .on_slot w h fun hd hg => ?_
  exact shrinkToOp_ok w hg n

theorem ok_shrinkToFit (h : Nat) (w : Wf cfg s) (flag : Bool) :
    StepOk cfg s (step cfg s (.shrinkToFit h)) (Spec.Std.step cfg.icap s.srcs (abs s) (.shrinkToFit h) flag) := by
  simp only [step_shrinkToFit, spec_shrinkToFit]
  refine .on_slot w h fun hd hg => ?_
  exact shrinkToOp_ok w hg _

theorem ok_asMutWrite (h i : Nat) (b : UInt8) (w : Wf cfg s) (flag : Bool)
    (hfl : flag = retFlag (step cfg s (.asMutWrite h i b)).2.ret) :
    StepOk cfg s (step cfg s (.asMutWrite h i b)) (Spec.Std.step cfg.icap s.srcs (abs s) (.asMutWrite h i b) flag) := by
  simp only [step_asMutWrite, spec_asMutWrite] at hfl ⊢
  refine .on_slot w h fun hd hg => ?_
  rw [onSlot_some hg] at hfl
  have hvl := view_length (w.handles h hd hg)
  -- granted: the write goes through an inline value or the sole owner
  have granted : Owned (setH s h none) hd.repr →
      StepOk cfg s (if i < hlen hd then
          ok (setH (writeView s hd.repr (fun w => setAt w i b)).1 h
            (some { hd with repr := (writeView s hd.repr (fun w => setAt w i b)).2.1 })) (.bool true)
            (writeView s hd.repr (fun w => setAt w i b)).2.2
        else ok s (.bool true) []) ((abs s).set h (some ((view s hd).set i b)), .bool true) := by
    intro ho
    split
    · have b1 := built_writeView (built_moved w hg) ho (fun w => setAt w i b) (setAt_length i b)
      rw [writeView_setH] at b1
      exact b1.stepOk_put hg (fun hn ht => by rw [norm_writeView]; exact hn h hd hg ht) _ _
    · exact (StepOk.same w _ _).congr
        (by rw [List.set_eq_of_length_le (l := view s hd) (by omega), abs_set_self hg]; rfl)
  cases hr : hd.repr with
  | inline bs =>
    rw [hr] at hfl granted
    simp only [if_true] at hfl ⊢
    have hf : flag = true := by rw [hfl]; split <;> rfl
    rw [hf]; exact granted trivial
  | borrowed a b' c => rw [hr] at hfl; rw [hfl]; exact .same w _ _
  | heap o pb off len =>
    rw [hr] at hfl granted
    simp only at hfl ⊢
    split
    · rename_i hu
      simp only [hu, if_true] at hfl
      have hf : flag = true := by rw [hfl]; split <;> rfl
      obtain ⟨x, hx, hlive, _⟩ := (handleOk_heap hr).mp (w.handles h hd hg)
      rw [hf]
      exact granted ⟨x, hx, ownerUnique_count ((wf_iff_wfx ..).mp w) hx hlive hu⟩
    · rename_i hu
      simp only [hu] at hfl
      rw [hfl]; exact .same w _ _

theorem uniqueWrite_ok (w : Wf cfg s) {h : Nat} {hd : Handle} (hg : getH s h = some hd)
    (f : List UInt8 → List UInt8) (hf : ∀ l, (f l).length = l.length) :
    StepOk cfg s (uniqueWrite cfg s h hd f) ((abs s).set h (some (f (view s hd))), .unit) := by
  have b0 := built_moved w hg
  obtain ⟨b1, ho⟩ := built_makeUnique b0 hd.tainted
  have b2 := built_writeView b1 ho f hf
  have hnm := fun hn => norm_makeUnique b0 hd.tainted hd.tainted hn
  simp only [makeUnique_setH, writeView_setH] at b2 hnm
  exact b2.stepOk_put hg (fun hn ht => by rw [norm_writeView]; exact hnm (hn h hd hg ht)) _ _

theorem ok_toMutWrite (h i : Nat) (b : UInt8) (w : Wf cfg s) (flag : Bool) :
    StepOk cfg s (step cfg s (.toMutWrite h i b)) (Spec.Std.step cfg.icap s.srcs (abs s) (.toMutWrite h i b) flag) := by
  simp only [step_toMutWrite, spec_toMutWrite]
  refine .on_slot w h fun hd hg => ?_
  split
  · exact uniqueWrite_ok w hg _ (setAt_length i b)
  · have hvl := view_length (w.handles h hd hg)
    have b0 := built_moved w hg
    have b1 := (built_makeUnique b0 hd.tainted).1
    have hnm := fun hn => norm_makeUnique b0 hd.tainted hd.tainted hn
    simp only [makeUnique_setH] at b1 hnm
    exact (b1.stepOk_put hg (fun hn ht => hnm (hn h hd hg ht)) .unit _).congr
      (by rw [List.set_eq_of_length_le (l := view s hd) (by omega)]; rfl)

theorem ok_makeAsciiLower (h : Nat) (w : Wf cfg s) (flag : Bool) :
    StepOk cfg s (step cfg s (.makeAsciiLower h)) (Spec.Std.step cfg.icap s.srcs (abs s) (.makeAsciiLower h) flag) := by
  simp only [step_makeAsciiLower, spec_makeAsciiLower]
  refine .on_slot w h fun hd hg => ?_
  exact uniqueWrite_ok w hg _ (fun _ => List.length_map ..)

theorem ok_makeAsciiUpper (h : Nat) (w : Wf cfg s) (flag : Bool) :
    StepOk cfg s (step cfg s (.makeAsciiUpper h)) (Spec.Std.step cfg.icap s.srcs (abs s) (.makeAsciiUpper h) flag) := by
  simp only [step_makeAsciiUpper, spec_makeAsciiUpper]
  refine .on_slot w h fun hd hg => ?_
  exact uniqueWrite_ok w hg _ (fun _ => List.length_map ..)

theorem pushRealloc_ok (w : Wf cfg s) {h : Nat} {hd : Handle} (hg : getH s h = some hd) (bs : List UInt8) :
    StepOk cfg s (pushRealloc cfg s h hd bs) ((abs s).set h (some (view s hd ++ bs)), .unit) := by
  have hvl := view_length (w.handles h hd hg)
  unfold pushRealloc
  rw [dropIf_eq]
  split
  · exact StepOk.drop_put w hg _ (by simp only [List.length_append]; omega) .unit _
  · have b := (built_moved w hg).reheap (view s hd ++ bs) (hlen hd + bs.length) (by simp only [List.length_append]; omega)
    simp only [newHeap_setH, dropRepr_setH] at b
    exact b.stepOk_put hg (fun _ _ => norm_newHeap _ _ _ _ _ (by simp only [List.length_append]; omega)) .unit _

theorem pushInPlace_ok (w : Wf cfg s) {h : Nat} {hd : Handle} (hg : getH s h = some hd) {bs : List UInt8}
    {r : State × Out} (hp : pushInPlace cfg s h hd bs = some r) :
    StepOk cfg s r ((abs s).set h (some (view s hd ++ bs)), .unit) := by
  unfold pushInPlace at hp
  cases hr : hd.repr with
  | inline b0 => rw [hr] at hp; cases hp
  | borrowed a b c => rw [hr] at hp; cases hp
  | heap o pb off len =>
    obtain ⟨x, hx, hlive, hpb, hrng⟩ := (handleOk_heap hr).mp (w.handles h hd hg)
    rw [hr] at hp
    simp only [hx] at hp
    split at hp
    · rename_i hu
      have hc := ownerUnique_count ((wf_iff_wfx ..).mp w) hx hlive hu
      have hkl : (x.data.take (off + len) ++ bs).length = off + len + bs.length := by
        simp only [List.length_append, List.length_take]; omega
      have b0 := built_moved w hg
      rw [hr] at b0
      have hnorm : ∀ b', NormOk cfg s → hd.tainted = false →
          isNormalized cfg ⟨.heap o b' off (len + bs.length), hd.tainted⟩ = true := by
        intro b' hn ht
        have := hn h hd hg ht
        rw [isNormalized_repr cfg (hd' := ⟨.heap o pb off len, hd.tainted⟩) hr, isNormalized_heap] at this
        rw [isNormalized_heap]
        exact decide_eq_true (by have := of_decide_eq_true this; omega)
      rw [view_heap_eq hr hx, ← push_window _ bs _ _ hrng]
      split at hp
      · rename_i hfit
        cases hp
        have b1 : Built cfg (setH s h none) (setH (setI s o { x with data := x.data.take (off + len) ++ bs }) h none) _ _ :=
          b0.rewrite_data hx hc _ off (len + bs.length) hfit (by rw [hkl]; omega)
        exact b1.stepOk_put hg (hnorm _) .unit _
      · cases hp
        -- the Vec grows into the fresh buffer `s.nextBuf`
        have b1 : Built cfg (setH s h none) (setH (setI { s with nextBuf := s.nextBuf + 1 } o
            { x with data := x.data.take (off + len) ++ bs,
                     cap := growCap x.cap (x.data.take (off + len) ++ bs).length, buf := s.nextBuf }) h none) _ _ :=
          (b0.bump (Nat.le_succ _)).rewrite hx hc _ _ s.nextBuf off (len + bs.length) (growCap_ge _ _)
            (Nat.lt_succ_self _) (fun j y _ hy _ he => by have := w.bufFresh j y hy; omega) (by rw [hkl]; omega)
        exact b1.stepOk_put hg (hnorm _) .unit _
    · cases hp

theorem ok_pushSlice (h : Nat) (bs : List UInt8) (w : Wf cfg s) (flag : Bool) :
    StepOk cfg s (step cfg s (.pushSlice h bs)) (Spec.Std.step cfg.icap s.srcs (abs s) (.pushSlice h bs) flag) := by
  simp only [step_pushSlice, spec_pushSlice]
  refine .on_slot w h fun hd hg => ?_
  cases hp : pushInPlace cfg s h hd bs with
  | none => exact pushRealloc_ok w hg bs
  | some r => exact pushInPlace_ok w hg hp

theorem ok_spareCapacity (h : Nat) (w : Wf cfg s) (flag : Bool) :
    StepOk cfg s (step cfg s (.spareCapacity h)) (Spec.Std.step cfg.icap s.srcs (abs s) (.spareCapacity h) flag) := by
  simp only [step_spareCapacity, spec_spareCapacity]
  refine .on_slot w h fun hd hg => ?_
  cases hr : hd.repr with
  | inline b0 => exact .same w _ _
  | borrowed a b c => exact .same w _ _
  | heap o pb off len =>
    obtain ⟨x, hx, hlive, hpb, hrng⟩ := (handleOk_heap hr).mp (w.handles h hd hg)
    simp only [hx]
    split
    · rename_i hu
      -- the owner Vec is truncated to the end of the view; the handle stays as it is
      have hc := ownerUnique_count ((wf_iff_wfx ..).mp w) hx hlive hu
      have b0 := built_moved w hg
      rw [hr] at b0
      have b1 : Built cfg (setH s h none) (setH (setI s o { x with data := x.data.take (off + len) }) h none) _ _ :=
        b0.rewrite_data hx hc (x.data.take (off + len)) off len
          (by have := w.datacap o x hx hlive; simp only [List.length_take]; omega)
          (by simp only [List.length_take]; omega)
      have k := b1.stepOk_put hg (t := hd.tainted) (fun hn ht => by
        rw [← hpb, ← isNormalized_repr cfg (hd := hd) hr]; exact hn h hd hg ht) (.nat (x.cap - (off + len))) []
      have he : (some ⟨.heap o x.buf off len, hd.tainted⟩ : Option Handle) = some hd := by
        rw [← hpb, ← hr]
      rw [he, setH_self (s := setI s o _) (getH_some_lt hg) hg] at k
      refine k.congr ?_
      rw [List.drop_take, List.take_take, Nat.add_sub_cancel_left, Nat.min_self, ← view_heap_eq hr hx,
        abs_set_self hg]
      rfl
    · exact .same w _ _

theorem release_sole {o : Nat} {x : Inner} (hx : getI s o = some x)
    (hc : x.count = 0) : (release cfg s o).1 = setI s o { x with live := false } := by
  rw [release_eq hx]
  simp [hc]

theorem stealVec_ok (w : Wf cfg s) {h : Nat} {hd : Handle} (hg : getH s h = some hd) {r : State × Out}
    (hs : stealVec cfg s h hd = some r) :
    r.2.ret = .bytes (view s hd) ∧ StepOk cfg s r ((abs s).set h none, .bytes (view s hd)) := by
  unfold stealVec at hs
  cases hr : hd.repr with
  | inline b0 => rw [hr] at hs; cases hs
  | borrowed a b c => rw [hr] at hs; cases hs
  | heap o pb off len =>
    obtain ⟨x, hx, hlive, _, _⟩ := (handleOk_heap hr).mp (w.handles h hd hg)
    rw [hr] at hs
    simp only [hx] at hs
    split at hs
    · rename_i hcond
      simp only [Bool.and_eq_true, beq_iff_eq] at hcond
      obtain ⟨rfl, hu⟩ := hcond
      cases hs
      have hc := ownerUnique_count ((wf_iff_wfx ..).mp w) hx hlive hu
      have hv : x.data.take len = view s hd := by rw [view_heap_eq hr hx]; simp
      have k := StepOk.drop w hg (.bytes (view s hd))
        (Event.freeInner o :: (if x.cap > 0 then [Event.exportBuf x.buf] else []))
      rw [hr, show (dropRepr cfg s (.heap o pb 0 len)).1 = setI s o { x with live := false } from
        release_sole hx hc] at k
      rw [hv]
      exact ⟨rfl, k⟩
    · cases hs

theorem ok_intoVec (h : Nat) (w : Wf cfg s) (flag : Bool)
    (hfl : flag = retFlag (step cfg s (.intoVec h)).2.ret) :
    StepOk cfg s (step cfg s (.intoVec h)) (Spec.Std.step cfg.icap s.srcs (abs s) (.intoVec h) flag) := by
  simp only [step_intoVec, spec_intoVec] at hfl ⊢
  refine .on_slot w h fun hd hg => ?_
  rw [onSlot_some hg] at hfl
  cases hs : stealVec cfg s h hd with
  | none => rw [hs] at hfl; rw [hfl]; exact .same w _ _
  | some r =>
    obtain ⟨hret, k⟩ := stealVec_ok w hg hs
    rw [hs] at hfl
    simp only [hret] at hfl
    rw [hfl]; exact k

theorem ok_toVec (h : Nat) (w : Wf cfg s) (flag : Bool) :
    StepOk cfg s (step cfg s (.toVec h)) (Spec.Std.step cfg.icap s.srcs (abs s) (.toVec h) flag) := by
  simp only [step_toVec, spec_toVec]
  refine .on_slot w h fun hd hg => ?_
  cases hs : stealVec cfg s h hd with
  | some r => exact (stealVec_ok w hg hs).2
  | none =>
    -- `err.as_slice().to_vec()`, then `err` is dropped
    exact (StepOk.drop (wf_bump w) (h := h) (hd := hd) hg (.bytes (view s hd)) _).of_bump.congr
      (by rw [abs_bump]; rfl)

/-! ### the `mutate()` guard: `take_vec`, the script on the owned Vec, `*self.result = HipByt::from(owned)` -/

/-- the script computes what `Vec` does; the Vec stays within its capacity; buffer identities only
move forward: the final buffer is the initial one or a fresh one -/
theorem vecApply_spec (script : List VecOp) : ∀ (data : List UInt8) (cap buf nb : Nat),
    (vecApply data cap buf nb script).1 = script.foldl applyVecOp data ∧
    (data.length ≤ cap → (vecApply data cap buf nb script).1.length ≤ (vecApply data cap buf nb script).2.1) ∧
    nb ≤ (vecApply data cap buf nb script).2.2.2.1 ∧
    ((vecApply data cap buf nb script).2.2.1 = buf ∨ nb ≤ (vecApply data cap buf nb script).2.2.1) ∧
    (buf < nb → (vecApply data cap buf nb script).2.2.1 < (vecApply data cap buf nb script).2.2.2.1) := by
  induction script with
  | nil => intro data cap buf nb; simp [vecApply]
  | cons op rest ih =>
    intro data cap buf nb
    have hext : ∀ bs : List UInt8,
        (vecApply data cap buf nb (.extend bs :: rest)).1 = (VecOp.extend bs :: rest).foldl applyVecOp data ∧
        (data.length ≤ cap → (vecApply data cap buf nb (.extend bs :: rest)).1.length ≤
          (vecApply data cap buf nb (.extend bs :: rest)).2.1) ∧
        nb ≤ (vecApply data cap buf nb (.extend bs :: rest)).2.2.2.1 ∧
        ((vecApply data cap buf nb (.extend bs :: rest)).2.2.1 = buf ∨
          nb ≤ (vecApply data cap buf nb (.extend bs :: rest)).2.2.1) ∧
        (buf < nb → (vecApply data cap buf nb (.extend bs :: rest)).2.2.1 <
          (vecApply data cap buf nb (.extend bs :: rest)).2.2.2.1) := by
      intro bs
      by_cases hc : data.length + bs.length ≤ cap
      · have := ih (data ++ bs) cap buf nb
        rcases hr : vecApply (data ++ bs) cap buf nb rest with ⟨d, c, b', n, ev⟩
        rw [hr] at this
        simp only [vecApply, hc, if_true, hr, List.foldl_cons, applyVecOp]
        simp only [List.length_append] at this
        obtain ⟨h1, h2, h3, h4, h5⟩ := this
        exact ⟨h1, fun _ => h2 hc, h3, h4, h5⟩
      · -- the Vec grows into the fresh buffer `nb`
        have := ih (data ++ bs) (growCap cap (data.length + bs.length)) nb (nb + 1)
        rcases hr : vecApply (data ++ bs) (growCap cap (data.length + bs.length)) nb (nb + 1) rest with ⟨d, c, b', n, ev⟩
        rw [hr] at this
        simp only [vecApply, hc, if_false, hr, List.foldl_cons, applyVecOp]
        simp only [List.length_append] at this
        obtain ⟨h1, h2, h3, h4, h5⟩ := this
        refine ⟨h1, fun _ => h2 (growCap_ge _ _), by omega, ?_, fun _ => h5 (Nat.lt_succ_self _)⟩
        rcases h4 with h4 | h4
        · right; rw [h4]; exact Nat.le_refl _
        · right; omega
    cases op with
    | push b => exact hext [b]
    | extend bs => exact hext bs
    | truncate n =>
      have := ih (data.take n) cap buf nb
      rcases hr : vecApply (data.take n) cap buf nb rest with ⟨d, c, b', n', ev⟩
      rw [hr] at this
      simp only [vecApply, hr, List.foldl_cons, applyVecOp]
      obtain ⟨h1, h2, h3, h4, h5⟩ := this
      refine ⟨h1, fun hc => h2 ?_, h3, h4, h5⟩
      simp only [List.length_take]; omega
    | clear =>
      have := ih [] cap buf nb
      rcases hr : vecApply [] cap buf nb rest with ⟨d, c, b', n', ev⟩
      rw [hr] at this
      simp only [vecApply, hr, List.foldl_cons, applyVecOp]
      obtain ⟨h1, h2, h3, h4, h5⟩ := this
      exact ⟨h1, fun _ => h2 (Nat.zero_le _), h3, h4, h5⟩

structure TakeVecPost (cfg : Cfg) (s : State) (h : Nat) (hd : Handle) (s' : State)
    (v : List UInt8 × Nat × Nat) : Prop where
  wf : Wf cfg s'
  pool_eq : s'.pool = s.pool.set h (some { hd with repr := .inline [] })
  srcs_eq : s'.srcs = s.srcs
  abs_eq : abs s' = (abs s).set h (some [])
  data_eq : v.1 = view s hd
  datacap : v.1.length ≤ v.2.1
  bufFresh : v.2.2 < s'.nextBuf
  bufFree : ∀ j y, getI s' j = some y → y.live = true → y.buf ≠ v.2.2

theorem dropRepr_getI_buf {r : Rep} {j : Nat} {y : Inner}
    (hy : getI (dropRepr cfg s r).1 j = some y) : ∃ y0, getI s j = some y0 ∧ y0.buf = y.buf := by
  have : (getI (dropRepr cfg s r).1 j).map (fun x => (x.data, x.cap, x.buf)) =
      (getI s j).map (fun x => (x.data, x.cap, x.buf)) := by
    unfold dropRepr; cases r <;> simp only [release_getI_data]
  rw [hy] at this
  cases h0 : getI s j with
  | none => rw [h0] at this; cases this
  | some y0 =>
    rw [h0] at this
    simp only [Option.map_some, Option.some.injEq, Prod.mk.injEq] at this
    exact ⟨y0, rfl, this.2.2.symm⟩

theorem takeVec_spec (w : Wf cfg s) {h : Nat} {hd : Handle}
    (hg : getH s h = some hd) :
    TakeVecPost cfg s h hd (takeVec cfg s h hd).1 (takeVec cfg s h hd).2.1 := by
  -- `Vec::from(self.as_slice())`, then `*self = Self::new()`
  have hco : TakeVecPost cfg s h hd
      (setH (dropRepr cfg { s with nextBuf := s.nextBuf + 1 } hd.repr).1 h (some { hd with repr := .inline [] }))
      (view s hd, (view s hd).length, s.nextBuf) := by
    have k := StepOk.drop_put (wf_bump w) (h := h) (hd := hd) hg [] (Nat.zero_le _) .unit []
    refine { wf := k.wf, pool_eq := ?_, srcs_eq := ?_, abs_eq := k.abs_eq.trans (by rw [abs_bump]), data_eq := rfl,
             datacap := Nat.le_refl _, bufFresh := ?_, bufFree := ?_ }
    · show ((dropRepr cfg _ hd.repr).1.pool).set h _ = _
      rw [dropRepr_pool]
    · show (dropRepr cfg _ hd.repr).1.srcs = _
      rw [dropRepr_srcs]
    · show s.nextBuf < (dropRepr cfg _ hd.repr).1.nextBuf
      rw [dropRepr_nextBuf]; exact Nat.lt_succ_self _
    · intro j y hy hyl he
      obtain ⟨y0, hy0, hb⟩ := dropRepr_getI_buf (s := { s with nextBuf := s.nextBuf + 1 }) (r := hd.repr) hy
      have := w.bufFresh j y0 hy0
      simp only at he
      omega
  unfold takeVec
  cases hr : hd.repr with
  | inline bs => simp only; rw [hr] at hco; exact hco
  | borrowed a b c => simp only; rw [hr] at hco; exact hco
  | heap o pb off len =>
    simp only
    cases hx : getI s o with
    | none => simp only; rw [hr] at hco; exact hco
    | some x =>
      simp only
      split
      · -- `try_into_vec`: the box is unwrapped
        rename_i hcond
        simp only [Bool.and_eq_true, beq_iff_eq] at hcond
        obtain ⟨rfl, hu⟩ := hcond
        obtain ⟨x1, hx1, hlive, hpb, hrng⟩ := (handleOk_heap hr).mp (w.handles h hd hg)
        rw [hx] at hx1; cases hx1
        have hc := ownerUnique_count ((wf_iff_wfx ..).mp w) hx hlive hu
        have k := StepOk.drop_put w hg [] (Nat.zero_le _) .unit [Event.freeInner o]
        rw [hr, show (dropRepr cfg s (.heap o pb 0 len)).1 = setI s o { x with live := false } from
          release_sole hx hc] at k
        refine { wf := k.wf, pool_eq := rfl, srcs_eq := rfl, abs_eq := k.abs_eq, data_eq := ?_,
                 datacap := ?_, bufFresh := w.bufFresh o x hx, bufFree := ?_ }
        · rw [view_heap_eq hr hx]; simp
        · have := w.datacap o x hx hlive
          simp only [List.length_take]; omega
        · intro j y hy hyl
          rw [getI_setH, getI_setI hx] at hy
          split at hy
          · cases hy; cases hyl
          · rename_i hj; exact w.bufDistinct j o y x hy hx (fun e => hj e.symm) hyl hlive
      · rw [hr] at hco; exact hco

theorem fromVecRepr_put (w : Wf cfg s) {h : Nat} {hd0 : Handle}
    (hg : getH s h = some hd0) (hnh : isHeap hd0 = false)
    (bs : List UInt8) (cap buf : Nat) (hc : bs.length ≤ cap) (hb : buf < s.nextBuf)
    (hfree : ∀ j y, getI s j = some y → y.live = true → y.buf ≠ buf) (t : Bool) (ret : Ret) (ev : List Event) :
    StepOk cfg s (ok (setH (fromVecRepr cfg s bs cap buf).1 h
      (some { repr := (fromVecRepr cfg s bs cap buf).2.1, tainted := t })) ret ev)
      ((abs s).set h (some bs), eraseRet ret) := by
  have b := built_fromVec (wf_moved w hg hnh) bs cap buf hc hb hfree
  rw [fromVecRepr_setH] at b
  exact b.stepOk_put hg (fun _ _ => norm_fromVec ..) ret ev

theorem ok_mutate (h : Nat) (script : List VecOp) (w : Wf cfg s) (flag : Bool) :
    StepOk cfg s (step cfg s (.mutate h script)) (Spec.Std.step cfg.icap s.srcs (abs s) (.mutate h script) flag) := by
  simp only [step_mutate, spec_mutate]
  refine .on_slot w h fun hd hg => ?_
  have P0 := takeVec_spec w hg
  rcases hT : takeVec cfg s h hd with ⟨s1, ⟨data, cap, buf⟩, ev1⟩
  have P : TakeVecPost cfg s h hd s1 (data, cap, buf) := by rw [hT] at P0; exact P0
  obtain ⟨V1, V2, V3, V4, V5⟩ := vecApply_spec script data cap buf s1.nextBuf
  rcases hV : vecApply data cap buf s1.nextBuf script with ⟨data', cap', buf', next', ev2⟩
  rw [hV] at V1 V2 V3 V4 V5
  simp only at V1 V2 V3 V4 V5 ⊢
  have w2 : Wf cfg { s1 with nextBuf := next' } :=
    (wf_iff_wfx ..).mpr (wfx_bump_to ((wf_iff_wfx ..).mp P.wf) V3)
  have hg1 : getH { s1 with nextBuf := next' } h = some { hd with repr := .inline [] } := by
    unfold getH; rw [P.pool_eq]; simp [getH_some_lt hg]
  have k := fromVecRepr_put w2 hg1 rfl data' cap' buf' (V2 P.datacap) (V5 P.bufFresh)
    (by
      intro j y hy hyl
      rcases V4 with e | e
      · rw [e]; exact P.bufFree j y hy hyl
      · have := P.wf.bufFresh j y hy; omega)
    hd.tainted .unit (ev1 ++ ev2 ++ (fromVecRepr cfg { s1 with nextBuf := next' } data' cap' buf').2.2)
  refine ⟨k.wf, fun hn => k.norm ?_, k.abs_eq.trans ?_, rfl⟩
  · exact normOk_pool (normOk_setH hn h _ (fun _ he _ => by cases he; rfl)) P.pool_eq
  · show ((abs { s1 with nextBuf := next' }).set h _) = _
    rw [abs_bump, P.abs_eq, List.set_set, V1, show data = view s hd from P.data_eq]

theorem ok_mutateLeak (h : Nat) (script : List VecOp) (w : Wf cfg s) (flag : Bool) :
    StepOk cfg s (step cfg s (.mutateLeak h script))
      (Spec.Std.step cfg.icap s.srcs (abs s) (.mutateLeak h script) flag) := by
  simp only [step_mutateLeak, spec_mutateLeak]
  refine .on_slot w h fun hd hg => ?_
  have P := takeVec_spec w hg
  obtain ⟨_, _, V3, _, _⟩ := vecApply_spec script (takeVec cfg s h hd).2.1.1 (takeVec cfg s h hd).2.1.2.1
    (takeVec cfg s h hd).2.1.2.2 (takeVec cfg s h hd).1.nextBuf
  refine ⟨(wf_iff_wfx ..).mpr (wfx_bump_to ((wf_iff_wfx ..).mp P.wf) V3), fun hn => ?_, ?_, rfl⟩
  · exact normOk_pool (normOk_setH hn h _ (fun _ he _ => by cases he; rfl)) P.pool_eq
  · show abs { (takeVec cfg s h hd).1 with nextBuf := _ } = _
    rw [abs_bump, P.abs_eq]

/-! ### the sole owner -/

/-- C02: if `is_unique` holds for the owner of a pool handle, that handle is the only reference to
the owner. -/
theorem ownerUnique_sole {cfg : Cfg} {s : State} (w : Wf cfg s)
    {h : Nat} {hd : Handle} (hg : getH s h = some hd) {o pb off len : Nat}
    (hr : hd.repr = .heap o pb off len) (hu : ownerUnique cfg s o = true) :
    refsTo s o = 1 := by
  obtain ⟨x, hx, hlive, _, _⟩ := (handleOk_heap hr).mp (w.handles h hd hg)
  have hc := ownerUnique_count ((wf_iff_wfx ..).mp w) hx hlive hu
  have hcnt := w.counts o x hx hlive
  have := refsTo_pos_of_getH hg (by rw [pointsTo_of_heap hr]; exact beq_self_eq_true o)
  omega

theorem ownerUnique_only_handle {cfg : Cfg} {s : State} (w : Wf cfg s)
    {h : Nat} {hd : Handle} (hg : getH s h = some hd) {o pb off len : Nat}
    (hr : hd.repr = .heap o pb off len) (hu : ownerUnique cfg s o = true)
    {h' : Nat} {hd' : Handle} (hg' : getH s h' = some hd') (hp' : pointsTo o (some hd') = true) :
    h' = h := by
  -- taking `h` out leaves no reference, so `h'` cannot be another slot
  apply Classical.byContradiction
  intro hne
  have h1 := ownerUnique_sole w hg hr hu
  have h2 := refsTo_setH s h none o (getH_some_lt hg)
  rw [hg, pointsTo_of_heap hr, beq_self_eq_true] at h2
  simp only [if_true, pointsTo_none, Bool.false_eq_true, if_false] at h2
  have := refsTo_pos_of_getH (s := setH s h none) (h := h')
    (by rw [getH_setH_other _ _ _ _ (fun e => hne e.symm)]; exact hg') hp'
  omega

/-- what the callers of `make_unique` (and of `writeView`) need to know about the value now
stored in slot `h`, compared with the handle `hd` that was there in state `s` -/
structure Reinstalled (cfg : Cfg) (s : State) (h : Nat) (hd : Handle) (s1 : State) (r1 : Rep) : Prop where
  wf : Wf cfg (setH s1 h (some { hd with repr := r1 }))
  abs_eq : abs (setH s1 h (some { hd with repr := r1 })) = abs s
  srcs_eq : s1.srcs = s.srcs
  hlen_eq : hlen { hd with repr := r1 } = hlen hd
  notBorrowed : isBorrowed { hd with repr := r1 } = false
  unique : ∀ o pb off len, r1 = .heap o pb off len → ownerUnique cfg s1 o = true
  norm : isNormalized cfg hd = true → isNormalized cfg { hd with repr := r1 } = true

theorem wf_clone {cfg : Cfg} {s : State} (w : Wf cfg s) {h d : Nat} {hd : Handle}
    (hg : getH s h = some hd) (hfree : slotFree s d = true) :
    Wf cfg (install (cloneRepr cfg s hd).1 d (cloneRepr cfg s hd).2.1 hd.tainted .unit
      (cloneRepr cfg s hd).2.2).1 :=
  ((built_clone w (w.handles h hd hg)).installed hfree _ _ _).1

theorem ref_clone {cfg : Cfg} {s : State} (w : Wf cfg s) {h d : Nat} {hd : Handle}
    (hg : getH s h = some hd) (hfree : slotFree s d = true) :
    abs (install (cloneRepr cfg s hd).1 d (cloneRepr cfg s hd).2.1 hd.tainted .unit
      (cloneRepr cfg s hd).2.2).1 = (abs s).set d (some (view s hd)) :=
  ((built_clone w (w.handles h hd hg)).installed hfree _ _ _).2

end HipVerif.Core
