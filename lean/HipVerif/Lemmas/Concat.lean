/-
The copy pass of the two-pass constructors (Model/Concat.lean) in closed form: with every copy guarded
and the final check in place, the outcome is decided by the total length of the chunks copied
(`guarded_pass`, `concat_eq`, `join_eq`: nested `if`s).  `Out.clean_ite` and `Out.ite_cases` at the end
are plain if-then-else logic for an outcome of that nested-`if` form, so that `Props/C10` reads its
theorems off the two equations.
-/
import HipVerif.Model.Concat

namespace HipVerif.Concat
open HipVerif.ConcatTy

theorem total_nil : total [] = 0 := rfl

theorem total_cons (p : List UInt8) (ps : List (List UInt8)) : total (p :: ps) = p.length + total ps := by
  simp [total]

theorem total_eq_flatten_length (ps : List (List UInt8)) : total ps = ps.flatten.length := by
  induction ps with
  | nil => rfl
  | cons p ps ih => simp [total_cons, ih]

theorem capacity_ge (icap n : Nat) : n ≤ capacityFor icap n := by
  unfold capacityFor
  split <;> omega

theorem writeAt_nil (dst : List (Option UInt8)) (pos : Nat) : writeAt dst pos [] = dst := by
  simp [writeAt]

theorem writeAt_length (dst : List (Option UInt8)) (pos : Nat) (src : List UInt8)
    (h : pos + src.length ≤ dst.length) : (writeAt dst pos src).length = dst.length := by
  simp only [writeAt, List.length_append, List.length_take, List.length_map, List.length_drop]
  omega

theorem writeAt_writeAt (dst : List (Option UInt8)) (pos : Nat) (a b : List UInt8)
    (h : pos + a.length ≤ dst.length) :
    writeAt (writeAt dst pos a) (pos + a.length) b = writeAt dst pos (a ++ b) := by
  have hl : (dst.take pos ++ a.map some).length = pos + a.length := by
    rw [List.length_append, List.length_take, List.length_map, Nat.min_eq_left (by omega)]
  unfold writeAt
  rw [List.take_left' hl, List.drop_append, List.drop_of_length_le (by omega), hl, List.nil_append,
    List.drop_drop, List.map_append, List.length_append, Nat.add_sub_cancel_left, Nat.add_assoc]
  simp only [List.append_assoc]

theorem writeAt_zero_take (dst : List (Option UInt8)) (src : List UInt8) :
    (writeAt dst 0 src).take src.length = src.map some := by
  unfold writeAt
  rw [List.take_zero, List.nil_append, List.take_left' (List.length_map _)]

theorem foldl_panicked (checked : Bool) (final : Nat) (cs : List (List UInt8)) :
    cs.foldl (copyChunk checked final) .panicked = .panicked := by
  induction cs with
  | nil => rfl
  | cons c cs ih => exact ih

theorem foldl_copyChunk (final : Nat) (cs : List (List UInt8)) :
    ∀ (dst : List (Option UInt8)) (pos : Nat), pos ≤ final → final ≤ dst.length →
      cs.foldl (copyChunk true final) (.run dst pos) =
        if pos + total cs ≤ final then .run (writeAt dst pos cs.flatten) (pos + total cs) else .panicked := by
  induction cs with
  | nil =>
    intro dst pos hp _
    rw [total_nil, Nat.add_zero, if_pos hp, List.flatten_nil, writeAt_nil]
    rfl
  | cons c cs ih =>
    intro dst pos _ hd
    rw [List.foldl_cons, total_cons, List.flatten_cons, ← Nat.add_assoc]
    by_cases h : pos + c.length ≤ final
    · have hstep : copyChunk true final (.run dst pos) c = .run (writeAt dst pos c) (pos + c.length) := by
        simp [copyChunk, Nat.not_lt.mpr h, Nat.not_lt.mpr (Nat.le_trans h hd)]
      rw [hstep, ih _ _ h (by rw [writeAt_length dst pos c (Nat.le_trans h hd)]; exact hd),
        writeAt_writeAt dst pos c _ (Nat.le_trans h hd)]
    · have hstep : copyChunk true final (.run dst pos) c = .panicked := by
        simp [copyChunk, Nat.lt_of_not_le h]
      rw [hstep, foldl_panicked, if_neg (fun h' => h (Nat.le_trans (Nat.le_add_right _ _) h'))]

def joinChunks (sep : List UInt8) : List (List UInt8) → List (List UInt8)
  | [] => []
  | first :: rest => first :: rest.flatMap (fun p => [sep, p])

theorem intercalate_cons (sep first : List UInt8) (rest : List (List UInt8)) :
    sep.intercalate (first :: rest) = first ++ (rest.map (fun p => sep ++ p)).flatten := by
  induction rest generalizing first with
  | nil => simp [List.intercalate]
  | cons p rest ih =>
    have := ih p
    simp only [List.intercalate, List.intersperse_cons_cons, List.flatten_cons, List.map_cons] at *
    rw [this]
    simp

theorem joinChunks_flatten (sep : List UInt8) (ps : List (List UInt8)) :
    (joinChunks sep ps).flatten = sep.intercalate ps := by
  cases ps with
  | nil => rfl
  | cons first rest =>
    rw [intercalate_cons, joinChunks, List.flatten_cons]
    congr 1
    induction rest with
    | nil => rfl
    | cons p rest ih => simp [List.flatMap_cons, ih]

theorem total_joinChunks (sep : List UInt8) (ps : List (List UInt8)) (h : ps ≠ []) :
    total (joinChunks sep ps) = (ps.length - 1) * sep.length + total ps := by
  have key : ∀ rest : List (List UInt8),
      total (rest.flatMap fun p => [sep, p]) = rest.length * sep.length + total rest := by
    intro rest
    induction rest with
    | nil => simp [total]
    | cons p rest ih =>
      rw [List.flatMap_cons, List.cons_append, List.cons_append, List.nil_append, total_cons,
        total_cons, ih, total_cons, List.length_cons, Nat.add_mul]
      omega
  cases ps with
  | nil => exact absurd rfl h
  | cons first rest =>
    simp only [joinChunks, total_cons, key, List.length_cons, Nat.add_sub_cancel]
    omega

theorem guarded_pass (ck : Checks) (hf : ck.finalEq = true) (icap newLen : Nat) (cs : List (List UInt8)) :
    finish ck icap newLen
        (cs.foldl (copyChunk true newLen) (.run (List.replicate (capacityFor icap newLen) none) 0)) =
      if total cs = newLen then .value (cs.flatten.map some) (decide (newLen > icap)) else .panic := by
  rw [foldl_copyChunk newLen cs _ 0 (Nat.zero_le _) (by rw [List.length_replicate]; exact capacity_ge _ _),
    Nat.zero_add]
  by_cases hle : total cs ≤ newLen
  · rw [if_pos hle]
    by_cases he : total cs = newLen
    · subst he
      rw [finish, hf, if_pos rfl, total_eq_flatten_length, writeAt_zero_take]
      simp
    · simp [finish, hf, he]
  · rw [if_neg hle, if_neg (fun he => hle (Nat.le_of_eq he))]
    rfl

theorem concat_eq (ck : Checks) (hp : ck.perPiece ≥ 1) (hf : ck.finalEq = true) (icap : Nat)
    (ps₁ ps₂ : List (List UInt8)) :
    concat ck icap ps₁ ps₂ =
      if total ps₁ = 0 then .value [] false
      else if total ps₂ = total ps₁ then .value (ps₂.flatten.map some) (decide (total ps₁ > icap))
      else .panic := by
  by_cases h : total ps₁ = 0
  · simp [concat, h]
  · simp only [concat, h, if_false, decide_eq_true hp]
    exact guarded_pass ck hf icap _ ps₂

theorem join_eq_fold (ck : Checks) (icap : Nat) (ps₁ ps₂ : List (List UInt8)) (sep : List UInt8) :
    join ck icap ps₁ ps₂ sep =
      if ps₁.length = 0 then .value [] false
      else
        finish ck icap ((ps₁.length - 1) * sep.length + total ps₁)
          ((joinChunks sep ps₂).foldl
            (copyChunk (ck.perPiece ≥ 3) ((ps₁.length - 1) * sep.length + total ps₁))
            (.run (List.replicate (capacityFor icap ((ps₁.length - 1) * sep.length + total ps₁)) none) 0)) := by
  unfold join
  split
  · rfl
  · cases ps₂ with
    | nil => rfl
    | cons first rest =>
      simp only [joinChunks, List.foldl_cons]
      congr 1
      generalize copyChunk _ _ (Pass.run _ 0) first = st
      induction rest generalizing st with
      | nil => rfl
      | cons p rest ih => simp [List.flatMap_cons, ih]

theorem join_eq (ck : Checks) (hp : ck.perPiece ≥ 3) (hf : ck.finalEq = true) (icap : Nat)
    (ps₁ ps₂ : List (List UInt8)) (sep : List UInt8) :
    join ck icap ps₁ ps₂ sep =
      if ps₁ = [] then .value [] false
      else if total (joinChunks sep ps₂) = (ps₁.length - 1) * sep.length + total ps₁
      then .value ((specJoin ps₂ sep).map some) (decide ((ps₁.length - 1) * sep.length + total ps₁ > icap))
      else .panic := by
  rw [join_eq_fold]
  by_cases h : ps₁ = []
  · rw [if_pos h, if_pos (by rw [h]; rfl)]
  · rw [if_neg h, if_neg (fun hl => h (List.eq_nil_of_length_eq_zero hl)), decide_eq_true hp, specJoin,
      ← joinChunks_flatten]
    exact guarded_pass ck hf icap _ _

/-- The outcome neither overran the buffer nor exposes a byte that was not copied into it. -/
def Out.Clean (o : Out) : Prop :=
  o ≠ .oob ∧ ∀ bs heap, o = .value bs heap → ∀ b ∈ bs, b.isSome = true

theorem Out.clean_panic : Out.Clean .panic := ⟨fun h => (nomatch h), fun _ _ h => (nomatch h)⟩

theorem Out.clean_value (l : List UInt8) (heap : Bool) : Out.Clean (.value (l.map some) heap) :=
  ⟨fun h => (nomatch h), fun _ _ h b hb => by
    cases h
    obtain ⟨x, _, rfl⟩ := List.mem_map.mp hb
    rfl⟩

theorem Out.clean_ite {a e : Prop} [Decidable a] [Decidable e] (l : List UInt8) (heap : Bool) :
    Out.Clean (if a then .value [] false else if e then .value (l.map some) heap else .panic) := by
  split
  · exact Out.clean_value [] false
  · split
    · exact Out.clean_value l heap
    · exact Out.clean_panic

theorem Out.ite_cases {a e : Prop} [Decidable a] [Decidable e] (v₀ v : Out) :
    (a → (if a then v₀ else if e then v else .panic) = v₀) ∧
    (¬a → (if a then v₀ else if e then v else .panic) = .panic ∨
      ((if a then v₀ else if e then v else .panic) = v ∧ e)) := by
  refine ⟨fun h => if_pos h, fun h => ?_⟩
  rw [if_neg h]
  by_cases he : e
  · exact .inr ⟨if_pos he, he⟩
  · exact .inl (if_neg he)

end HipVerif.Concat
