/-
The slot-level model refines the list-level model: one fault-free step (`slots_refine_iv`,
`slots_refine_tv`) and whole fault-free histories (`slots_run_refines_iv/_tv`).
-/
import HipVerif.Lemmas.SlotsRefineTVStep
namespace HipVerif.Slots
variable {fl : Bool}
open HipVerif.Vecs (IV TV Outcome Val Reason PanicClass DrainEnd Src TVParams)
open HipVerif.Spec.Vec (Bnd Side)

theorem absL_mem (s : St) (m : Mem) : absL { s with mem := m } = absL s := rfl

theorem slots_refine_iv {s : St} (op : Op) (vop : Vecs.Op Nat) (h : OwnL fl s [] [])
    (hth : s.v.h.thin = false) (hal : s.v.h.alive = true) (hmap : toIVOp s op = some vop) :
    retMatch (step none op s).1 ((absIV s).step vop).1 ∧
    absIV (step none op s).2 = ((absIV s).step vop).2 ∧
    (step none op s).2.v.h.thin = false ∧ (step none op s).2.v.h.alive = true := by
  have h0 : OwnL fl ({ s with mem := { s.mem with budget := none } } : St) [] [] :=
    h.mem_step (fun _ _ hx => { hx.toFalse with full := fun hf => ⟨rfl, (hx.full hf).2⟩ })
  have hv := h0.view
  have key := iStep_refines (s := { s with mem := { s.mem with budget := none } }) op vop h0 hv rfl
    hth hal hmap
  unfold step
  simp only [hal, if_true, hth, Bool.false_eq_true, if_false]
  obtain ⟨k1, L', k2, k3, k4, k5, k6⟩ := key
  refine ⟨k1, ?_, k4, k5⟩
  simp only [absIV] at k6 ⊢
  rw [show absL ({ s with mem := { s.mem with budget := none } } : St) = absL s from rfl] at k6
  rw [k6]
  congr 1
  exact absL_of_view k2

theorem slots_refine_tv {s : St} (alT : Nat) (op : Op) (vop : Vecs.Op Nat) (h : OwnL fl s [] [])
    (hth : s.v.h.thin = true) (hal : s.v.h.alive = true) (ha : AlignOk alT) (hsm : Small s op)
    (hmap : toTVOp s op = some vop) :
    retMatch (step none op s).1 ((absTV alT s).step vop).1 ∧
    absTV alT (step none op s).2 = ((absTV alT s).step vop).2 ∧
    (step none op s).2.v.h.thin = true ∧ (step none op s).2.v.h.alive = true := by
  have h0 : OwnL fl ({ s with mem := { s.mem with budget := none } } : St) [] [] :=
    h.mem_step (fun _ _ hx => { hx.toFalse with full := fun hf => ⟨rfl, (hx.full hf).2⟩ })
  have hv := h0.view
  have key := tStep_refines (s := { s with mem := { s.mem with budget := none } }) alT op vop h0 hv
    rfl hth hal ha hsm hmap
  unfold step
  simp only [hal, if_true, hth]
  obtain ⟨k1, L', k2, k3, k6⟩ := key
  refine ⟨k1, ?_, by rw [k3.thin]; exact hth, by rw [k3.alive]; exact hal⟩
  simp only [absTV] at k6 ⊢
  rw [show absL ({ s with mem := { s.mem with budget := none } } : St) = absL s from rfl] at k6
  rw [k6]
  have he : (tStep op ({ s with mem := { s.mem with budget := none } } : St)).2.v.h.esz
      = s.v.h.esz := k3.esz
  simp only [he]
  congr 1
  exact absL_of_view k2

def runQ : List Op → St → List Ret × St
  | [], s => ([], s)
  | op :: r, s =>
    let (x, s1) := step none op s
    let (xs, s2) := runQ r s1
    (x :: xs, s2)

theorem runQ_snd : ∀ (ops : List Op) (s : St), (runQ ops s).2 = run (ops.map (fun op => (none, op))) s
  | [], _ => rfl
  | op :: r, s => by
    simp only [runQ, List.map_cons, run]
    exact runQ_snd r _

def retsMatch : List Ret → List (Outcome Nat) → Prop
  | [], [] => True
  | x :: xs, o :: os => retMatch x o ∧ retsMatch xs os
  | _, _ => False

/-- the list-model history of a slot-model history of an InlineVec (`none`: some operation has no
counterpart) -/
def ivHist : St → List Op → Option (List (Vecs.Op Nat))
  | _, [] => some []
  | s, op :: r =>
    match toIVOp s op, ivHist (step none op s).2 r with
    | some v, some vs => some (v :: vs)
    | _, _ => none

def tvHist : St → List Op → Option (List (Vecs.Op Nat))
  | _, [] => some []
  | s, op :: r =>
    match toTVOp s op, tvHist (step none op s).2 r with
    | some v, some vs => some (v :: vs)
    | _, _ => none

def SmallHist : St → List Op → Prop
  | _, [] => True
  | s, op :: r => Small s op ∧ SmallHist (step none op s).2 r

instance decSmall (s : St) (op : Op) : Decidable (Small s op) := by
  unfold Small; infer_instance

instance decSmallHist : ∀ (ops : List Op) (s : St), Decidable (SmallHist s ops)
  | [], _ => isTrue trivial
  | op :: r, s => by
    unfold SmallHist
    exact @instDecidableAnd _ _ (decSmall s op) (decSmallHist r _)

theorem slots_run_refines_iv : ∀ (ops : List Op) (s : St) (vops : List (Vecs.Op Nat)),
    Own s → s.v.h.thin = false → s.v.h.alive = true → ivHist s ops = some vops →
    retsMatch (runQ ops s).1 ((absIV s).run vops).1 ∧
      absIV (runQ ops s).2 = ((absIV s).run vops).2
  | [], s, vops, _, _, _, hm => by
    simp only [ivHist, Option.some.injEq] at hm
    subst hm
    simp [runQ, IV.run, retsMatch]
  | op :: r, s, vops, h, hth, hal, hm => by
    simp only [ivHist] at hm
    rcases hv : toIVOp s op with _ | v
    · simp [hv] at hm
    · rcases hvs : ivHist (step none op s).2 r with _ | vs
      · simp [hv, hvs] at hm
      · simp only [hv, hvs, Option.some.injEq] at hm
        subst hm
        obtain ⟨k1, k2, k3, k4⟩ := slots_refine_iv op v h hth hal hv
        have h' : Own (step none op s).2 := step_own none op h
        obtain ⟨i1, i2⟩ := slots_run_refines_iv r _ vs h' k3 k4 hvs
        simp only [runQ, IV.run]
        rw [k2] at i1 i2
        exact ⟨⟨k1, i1⟩, i2⟩

theorem slots_run_refines_tv (alT : Nat) (ha : AlignOk alT) : ∀ (ops : List Op) (s : St)
    (vops : List (Vecs.Op Nat)), Own s → s.v.h.thin = true → s.v.h.alive = true →
    SmallHist s ops → tvHist s ops = some vops →
    retsMatch (runQ ops s).1 ((absTV alT s).run vops).1 ∧
      absTV alT (runQ ops s).2 = ((absTV alT s).run vops).2
  | [], s, vops, _, _, _, _, hm => by
    simp only [tvHist, Option.some.injEq] at hm
    subst hm
    simp [runQ, TV.run, retsMatch]
  | op :: r, s, vops, h, hth, hal, hsm, hm => by
    simp only [tvHist] at hm
    rcases hv : toTVOp s op with _ | v
    · simp [hv] at hm
    · rcases hvs : tvHist (step none op s).2 r with _ | vs
      · simp [hv, hvs] at hm
      · simp only [hv, hvs, Option.some.injEq] at hm
        subst hm
        obtain ⟨k1, k2, k3, k4⟩ := slots_refine_tv alT op v h hth hal ha hsm.1 hv
        have h' : Own (step none op s).2 := step_own none op h
        obtain ⟨i1, i2⟩ := slots_run_refines_tv alT ha r _ vs h' k3 k4 hsm.2 hvs
        simp only [runQ, TV.run]
        rw [k2] at i1 i2
        exact ⟨⟨k1, i1⟩, i2⟩

theorem slots_len_le_cap {s : St} (h : Own s) (ops : List Op) :
    (runQ ops s).2.v.len ≤ (runQ ops s).2.v.cap := by
  rw [runQ_snd]
  exact (run_own _ s h).len_le

end HipVerif.Slots
