/-
Property-level facts about the Core state machine:
* C02: mutable access / ownership transfer / in-place growth are granted to the sole owner only;
* C03: allocator events — a box is freed exactly once, by the step that releases its last
  share; freed inners stay freed; nothing leaks once every value is dropped; every `freeBuf` and
  `write` of a step is justified by the state it leaves (read off the buffer ledger).
The per-step facts are projections of `step_moves` (`CoreMoveStep.lean`).
-/
import HipVerif.Lemmas.CoreEvOk
import HipVerif.Lemmas.CoreMoveStep
import HipVerif.Lemmas.CoreLedgerTrace

namespace HipVerif.Core
open HipVerif.Spec.Std

/-! ## Sole ownership (C02) -/

/-- C02: if `as_mut_slice()` returned `Some` (the model's `.bool true`) the value is not borrowed
and, if it is heap-allocated, its handle is the only reference to the owner box. -/
theorem asMut_grant_sound {cfg : Cfg} {s : State} {h : Nat} {hd : Handle} (i : Nat) (b : UInt8)
    (hg : getH s h = some hd) (hret : (step cfg s (.asMutWrite h i b)).2.ret = .bool true) (w : Wf cfg s) :
    isBorrowed hd = false ∧ ∀ o pb off len, hd.repr = .heap o pb off len → refsTo s o = 1 := by
  simp only [step, hg] at hret
  cases hr : hd.repr with
  | inline bs =>
    exact ⟨by unfold isBorrowed; rw [hr], by intro o pb off len he; cases he⟩
  | borrowed a b' c => rw [hr] at hret; cases hret
  | heap o pb off len =>
    rw [hr] at hret
    simp only at hret
    by_cases hu : ownerUnique cfg s o = true
    · refine ⟨by unfold isBorrowed; rw [hr], ?_⟩
      intro o' pb' off' len' he; cases he
      exact ownerUnique_sole w hg hr hu
    · simp only [hu] at hret; cases hret

/-- C02: when `as_mut_slice()` returns `None` nothing changes. -/
theorem asMut_refused_unchanged {cfg : Cfg} {s : State} {h : Nat} (i : Nat) (b : UInt8)
    (hret : (step cfg s (.asMutWrite h i b)).2.ret = .bool false) :
    (step cfg s (.asMutWrite h i b)).1 = s := by
  simp only [step] at hret ⊢
  cases hg : getH s h with
  | none => rfl
  | some hd =>
    rw [hg] at hret
    simp only at hret ⊢
    cases hr : hd.repr with
    | inline bs =>
      rw [hr] at hret; simp only [if_true] at hret
      split at hret <;> cases hret
    | borrowed a b' c => rfl
    | heap o pb off len =>
      rw [hr] at hret
      simp only at hret ⊢
      by_cases hu : ownerUnique cfg s o = true
      · simp only [hu, if_true] at hret
        split at hret <;> cases hret
      · simp only [hu]; rfl

/-- C02: `into_vec()` returns the `Vec` exactly when the value is heap-allocated, starts at offset 0
of its owner's buffer and is the sole owner. -/
theorem intoVec_ok_iff {cfg : Cfg} {s : State} {h : Nat} {hd : Handle} (w : Wf cfg s)
    (hg : getH s h = some hd) :
    (∃ v, (step cfg s (.intoVec h)).2.ret = .bytes v) ↔
      ∃ o pb len, hd.repr = .heap o pb 0 len ∧ ownerUnique cfg s o = true := by
  have hok := w.handles h hd hg
  simp only [step, hg]
  cases hr : hd.repr with
  | inline bs =>
    constructor
    · intro ⟨_, hv⟩; cases hv
    · intro ⟨_, _, _, he, _⟩; cases he
  | borrowed a b c =>
    constructor
    · intro ⟨_, hv⟩; cases hv
    · intro ⟨_, _, _, he, _⟩; cases he
  | heap o pb off len =>
    obtain ⟨x, hx, _⟩ := (handleOk_heap hr).mp hok
    simp only [hx]
    by_cases hcond : (off == 0 && ownerUnique cfg s o) = true
    · simp only [hcond, if_true]
      have hoff : off = 0 := by simp at hcond; exact hcond.1
      have hu : ownerUnique cfg s o = true := by simp at hcond; exact hcond.2
      subst hoff
      exact ⟨fun _ => ⟨o, pb, len, rfl, hu⟩, fun _ => ⟨_, rfl⟩⟩
    · simp only [hcond]
      constructor
      · intro ⟨_, hv⟩; cases hv
      · intro ⟨o', pb', len', he, hu⟩
        cases he
        simp [hu] at hcond

/-- C02: when `into_vec()` hands the value back (`Err(self)`) the state is unchanged. -/
theorem intoVec_refused_unchanged {cfg : Cfg} {s : State} {h : Nat}
    (hret : ¬ ∃ v, (step cfg s (.intoVec h)).2.ret = .bytes v) : (step cfg s (.intoVec h)).1 = s := by
  simp only [step] at hret ⊢
  cases hg : getH s h with
  | none => rfl
  | some hd =>
    rw [hg] at hret
    simp only at hret ⊢
    cases hr : hd.repr with
    | inline bs => rfl
    | borrowed a b c => rfl
    | heap o pb off len =>
      rw [hr] at hret
      simp only at hret ⊢
      cases hx : getI s o with
      | none => rfl
      | some x =>
        rw [hx] at hret
        simp only at hret ⊢
        by_cases hcond : (off == 0 && ownerUnique cfg s o) = true
        · simp only [hcond, if_true] at hret
          exact absurd ⟨_, rfl⟩ hret
        · simp only [hcond]; rfl

/-- C02: if after `push_slice` slot `h` still holds a heap handle on the same owner box, that handle
was the only reference to the box: appending in place happens for the sole owner only. -/
theorem push_in_place_iff_sole {cfg : Cfg} {s : State} {h : Nat} {hd : Handle} (bs : List UInt8)
    (w : Wf cfg s) (hg : getH s h = some hd) {o pb off len : Nat} (hr : hd.repr = .heap o pb off len)
    {hd' : Handle} (hg' : getH (step cfg s (.pushSlice h bs)).1 h = some hd')
    {pb' off' len' : Nat} (hr' : hd'.repr = .heap o pb' off' len') : refsTo s o = 1 := by
  have hl := getH_some_lt hg
  obtain ⟨x, hx, _⟩ := (handleOk_heap hr).mp (w.handles h hd hg)
  have hlt := getI_some_lt hx
  by_cases hu : ownerUnique cfg s o = true
  · exact ownerUnique_sole w hg hr hu
  · exfalso
    have hni : isInline hd = false := by unfold isInline; rw [hr]
    simp only [step, hg, hr, hx, hu, hni, Bool.false_eq_true, if_false] at hg'
    split at hg'
    · simp only [ok] at hg'
      rw [getH_setH_same _ _ _ (by rw [dropRepr_pool]; exact hl)] at hg'
      cases hg'; cases hr'
    · simp only [ok] at hg'
      rw [getH_setH_same _ _ _ (by rw [dropRepr_pool]; exact hl)] at hg'
      cases hg'
      have : (newHeap s (view s hd ++ bs) (hlen hd + bs.length)).2.1 =
          .heap s.inners.length s.nextBuf 0 (view s hd ++ bs).length := rfl
      rw [this] at hr'
      cases hr'
      omega

/-! ## Heap discipline (C03) -/

/-- C03: once every value has been dropped (every slot is empty) every box has been freed. -/
theorem all_dropped_all_freed {cfg : Cfg} {s : State} (w : Wf cfg s) (hnone : ∀ h, getH s h = none) :
    ∀ i x, getI s i = some x → x.live = false := by
  intro i x hx
  cases hl : x.live with
  | false => rfl
  | true =>
    have hc := w.counts i x hx hl
    have h0 : refsTo s i = 0 := by
      unfold refsTo
      apply List.countP_eq_zero.mpr
      intro o ho hp
      obtain ⟨k, hk, hke⟩ := List.getElem_of_mem ho
      have := hnone k
      rw [getH_eq_getElem hk, hke] at this
      subst this
      simp at hp
    omega

/-- C03: if a step emits `freeInner i`, box `i` was live before the step and held its last share
(stored count 0, or the `Unique` backend), and it is dead afterwards. -/
theorem freeInner_sound {cfg : Cfg} {s : State} (w : Wf cfg s) (op : Op) {i : Nat}
    (hev : Event.freeInner i ∈ (step cfg s op).2.events) :
    (∃ x, getI s i = some x ∧ x.live = true ∧ (cfg.backend = .unique ∨ x.count = 0)) ∧
    (∃ y, getI (step cfg s op).1 i = some y ∧ y.live = false) := by
  obtain ⟨ws, m, _⟩ := step_moves w op
  obtain ⟨x, y, hx, hl, hc, hy, hyd⟩ := m.eff.freed i (mem_freesOf.mp hev)
  exact ⟨⟨x, hx, hl, hc⟩, ⟨y, hy, hyd⟩⟩

/-- C03: a step frees a box at most once (in fact it emits at most one `freeInner`). -/
theorem freeInner_once_per_step {cfg : Cfg} {s : State} (w : Wf cfg s) (op : Op) (i : Nat) :
    (step cfg s op).2.events.count (.freeInner i) ≤ 1 := by
  obtain ⟨ws, m, _⟩ := step_moves w op
  rw [count_freesOf]
  exact Nat.le_trans List.count_le_length m.eff.once

/-- C03: boxes are never removed from the model's table, so indices are stable (a freed box stays
in the list, dead). -/
theorem inners_only_grow {cfg : Cfg} {s : State} (w : Wf cfg s) (op : Op) {i : Nat} {x : Inner}
    (hx : getI s i = some x) : ∃ y, getI (step cfg s op).1 i = some y := by
  obtain ⟨ws, m, _⟩ := step_moves w op
  obtain ⟨y, hy, _⟩ := m.eff.frame i x hx
  exact ⟨y, hy⟩

/-- C03: a freed box is never touched again: no later step revives it or changes its count or its
(dangling) `Vec` descriptor. -/
theorem dead_stays_dead {cfg : Cfg} {s : State} (w : Wf cfg s) (op : Op) {i : Nat} {x : Inner}
    (hx : getI s i = some x) (hd : x.live = false) : getI (step cfg s op).1 i = some x := by
  obtain ⟨ws, m, _⟩ := step_moves w op
  obtain ⟨y, hy, hdy, _⟩ := m.eff.frame i x hx
  rw [hy, hdy hd]

theorem live_was_live {cfg : Cfg} {s : State} (w : Wf cfg s) (op : Op) {i : Nat} {x y : Inner}
    (hx : getI s i = some x) (hy : getI (step cfg s op).1 i = some y) (hl : y.live = true) :
    x.live = true := by
  cases hxl : x.live with
  | true => rfl
  | false =>
    have := dead_stays_dead w op hx hxl
    rw [hy] at this; cases this
    rw [hl] at hxl; cases hxl

/-- C03: if a step changes the bytes of the owner `Vec` of a live box `i`, exactly one handle
referred to `i` before the step, and it sits in a slot the operation targets. -/
theorem write_only_own_inner {cfg : Cfg} {s : State} (w : Wf cfg s) (op : Op) {i : Nat} {x y : Inner}
    (hx : getI s i = some x) (hy : getI (step cfg s op).1 i = some y) (_hl : x.live = true)
    (hne : y.data ≠ x.data) :
    refsTo s i = 1 ∧ ∃ h, h ∈ targets op ∧ pointsTo i (getH s h) = true := by
  obtain ⟨ws, m, hws⟩ := step_moves w op
  obtain ⟨y', hy', _, _, hdata⟩ := m.eff.frame i x hx
  rw [hy] at hy'; cases hy'
  by_cases hi : i ∈ ws
  · exact hws i hi (getI_some_lt hx)
  · exact absurd (hdata hi).1 hne

def runEvents (cfg : Cfg) (s : State) : List Op → List Event
  | [] => []
  | op :: ops => (step cfg s op).2.events ++ runEvents cfg (step cfg s op).1 ops

theorem runEvents_eq_run (cfg : Cfg) (ops : List Op) :
    ∀ s, runEvents cfg s ops = ((run cfg s ops).2.map (·.events)).flatten := by
  induction ops with
  | nil => intro s; rfl
  | cons op ops ih => intro s; simp [runEvents, run, ih]

/-- C03: along any history from a well-formed state every box is freed at most once, and a box that
is already freed is never freed again. -/
theorem no_double_free {cfg : Cfg} (ops : List Op) : ∀ {s : State}, Wf cfg s → ∀ i,
    (runEvents cfg s ops).count (.freeInner i) ≤ 1 ∧
    (∀ x, getI s i = some x → x.live = false → (runEvents cfg s ops).count (.freeInner i) = 0) := by
  induction ops with
  | nil => intro s _ i; exact ⟨Nat.zero_le _, fun _ _ _ => rfl⟩
  | cons op ops ih =>
    intro s w i
    have w' := wf_step cfg s op w
    obtain ⟨ih1, ih2⟩ := ih w' i
    simp only [runEvents, List.count_append]
    have h1 := freeInner_once_per_step w op i
    constructor
    · by_cases hz : (step cfg s op).2.events.count (.freeInner i) = 0
      · omega
      · have hmem : Event.freeInner i ∈ (step cfg s op).2.events :=
          List.count_pos_iff.mp (Nat.pos_of_ne_zero hz)
        obtain ⟨_, y, hy, hyd⟩ := freeInner_sound w op hmem
        have := ih2 y hy hyd
        omega
    · intro x hx hd
      have hz : (step cfg s op).2.events.count (.freeInner i) = 0 := by
        apply List.count_eq_zero.mpr
        intro hmem
        obtain ⟨⟨x', hx', hl, _⟩, _⟩ := freeInner_sound w op hmem
        rw [hx] at hx'; cases hx'
        rw [hl] at hd; cases hd
      have := ih2 x (dead_stays_dead w op hx hd) hd
      omega

/-- An accepted event list whose final ledger describes the boxes of `S'` is justified by `S'`: what
a `freeBuf` names is gone at the end, so no live box has it; what a `write` names was in with a
capacity `c ≥ hi`, and if a live box has it at the end it never left and `c` is that box's capacity. -/
theorem evOk_of_ledger {L : Ledger} {ev : List Event} {S' : State} (hacc : Accepted L ev)
    (hinv : LInv S' (L.run ev) none) : AllEvOk S' ev := by
  intro e he
  obtain ⟨pre, post, rfl⟩ := List.append_of_mem he
  cases e with
  | freeBuf b =>
    have hg := Ledger.gone_of_leaves _ L he (b := b) rfl
    exact ⟨hinv.idsFresh b (List.mem_append.mpr (Or.inr hg)),
      fun j y hy hl hb => hinv.gone (some j) b y.cap ⟨y, hy, hl, hb, rfl⟩ hg⟩
  | write b lo hi =>
    obtain ⟨_, ⟨hlh, c, hc, hle⟩, _⟩ := accepted_split hacc
    have hend := live_stays_or_gone (Event.write b lo hi :: post) _ hc
    rw [← Ledger.run_append] at hend
    refine ⟨?_, hlh, ?_⟩
    · rcases hend with h | h
      · exact hinv.idsFresh b (List.mem_append.mpr (Or.inl (Ledger.mem_liveIds.mpr ⟨c, h⟩)))
      · exact hinv.idsFresh b (List.mem_append.mpr (Or.inr h))
    · intro j y hy hl hb
      have hown : OwnsAt S' none (some j) b y.cap := ⟨y, hy, hl, hb, rfl⟩
      rcases hend with h | h
      · obtain ⟨_, p, hp⟩ := (hinv.live_iff b c).mp h
        have := hinv.inj p (some j) b c y.cap hp hown
        subst this
        rw [← (hinv.func _ b b c y.cap hp hown).2]
        exact hle
      · exact absurd h (hinv.gone _ b _ hown)
  | _ => trivial

theorem step_evOk {cfg : Cfg} {s : State} (w : Wf cfg s) (op : Op) :
    AllEvOk (step cfg s op).1 (step cfg s op).2.events :=
  let t := step_trans w op _ (lInv_of_wf w)
  evOk_of_ledger t.1 t.2

/-- C03: if a step emits `freeBuf b` then after the step no live box whose `Vec` owns an allocation
has buffer `b`: it belonged to the box that died in this step, or to a `Vec` that entered in this
step (`From<Vec>`, a `mutate` guard) and whose contents ended up inline. -/
theorem freeBuf_justified {cfg : Cfg} {s : State} (w : Wf cfg s) (op : Op) {b : Nat}
    (hev : Event.freeBuf b ∈ (step cfg s op).2.events) :
    ∀ j y, getI (step cfg s op).1 j = some y → y.live = true → y.cap > 0 → y.buf ≠ b :=
  fun j y hy hl _ => (step_evOk w op _ hev).2 j y hy hl

/-- C03: every `write b lo hi` a step emits is a range into an existing buffer, within the capacity
of the live box that owns `b` after the step, if any.  Writes into a buffer no box owns afterwards
(the temporary `Vec` of `Vec::from(hip)` or of a `mutate` guard) are not covered here. -/
theorem writes_within_cap_inner {cfg : Cfg} {s : State} (w : Wf cfg s) (op : Op) {b lo hi : Nat}
    (hev : Event.write b lo hi ∈ (step cfg s op).2.events) :
    b < (step cfg s op).1.nextBuf ∧ lo ≤ hi ∧
    ∀ j y, getI (step cfg s op).1 j = some y → y.live = true → y.buf = b → hi ≤ y.cap :=
  step_evOk w op _ hev

end HipVerif.Core
