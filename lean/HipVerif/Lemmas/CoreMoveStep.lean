/-
Every operation of the Core state machine, walked once: `step_moves` says what a step does to the
boxes, which `freeInner` events it emits and why, which Vecs it may write, and that the buffer
ledger follows its events.  `CoreHeapFacts.lean` and `CoreLedgerRun.lean` read the C02/C03 facts off it.
-/
import HipVerif.Lemmas.CoreMove

namespace HipVerif.Core
open HipVerif.Spec.Std

variable {cfg : Cfg} {s : State}

theorem wsOk_nil {tg : List Nat} : WsOk s tg [] := fun _ h => by cases h

theorem wsOk_owner (w : Wf cfg s) {h : Nat} {hd : Handle} (hg : getH s h = some hd) {tg : List Nat}
    (htg : h ∈ tg) {o pb off len : Nat} (hr : hd.repr = .heap o pb off len)
    (hu : ownerUnique cfg s o = true) : WsOk s tg [o] := by
  intro o' ho' _
  rw [List.mem_singleton.mp ho']
  refine ⟨ownerUnique_sole w hg hr hu, h, htg, ?_⟩
  rw [hg]
  unfold pointsTo
  simp only [hr, beq_self_eq_true]

def StepMoves (cfg : Cfg) (s : State) (r : State × Out) (tg : List Nat) : Prop :=
  ∃ ws, Move cfg s none r.2.events r.1 none ws ∧ WsOk s tg ws

section closers
variable {S : State} {ev : List Event} {ws tg : List Nat} {ret : Ret} {d : Nat} {v : Option Handle}

theorem stepMoves_refl : StepMoves cfg s (ok s ret []) tg := ⟨[], (calm_refl s none).move, wsOk_nil⟩

theorem Move.stepMoves (m : Move cfg s none ev S none ws) (hws : WsOk s tg ws) : StepMoves cfg s (ok S ret ev) tg :=
  ⟨ws, m, hws⟩

theorem Move.stepMovesH (m : Move cfg s none ev S none ws) (hws : WsOk s tg ws) :
    StepMoves cfg s (ok (setH S d v) ret ev) tg :=
  ⟨ws, m.put d v, hws⟩

theorem Calm.stepMovesH (c : Calm s none ev S none []) : StepMoves cfg s (ok (setH S d v) ret ev) tg :=
  c.move.stepMovesH wsOk_nil

theorem stepMoves_put : StepMoves cfg s (ok (setH s d v) ret []) tg := (calm_refl s none).stepMovesH

end closers

theorem stepMoves_onSlot {h : Nat} {tg : List Nat} {f : Handle → State × Out}
    (hf : ∀ hd, getH s h = some hd → StepMoves cfg s (f hd) tg) : StepMoves cfg s (onSlot s h f) tg := by
  unfold onSlot
  cases hg : getH s h with
  | none => exact stepMoves_refl
  | some hd => exact hf hd hg

/-- the debug assertion after `truncate`: panic and leave the state alone, or go on -/
theorem stepMoves_dbg {res : State × Out} {h : Nat} {tg : List Nat} (hres : StepMoves cfg s res tg) :
    StepMoves cfg s (match getH res.1 h with
      | some hd' => if dbgFails cfg (isNormalized cfg hd') = true then ok s .panic [] else res
      | none => res) tg := by
  split
  · split
    · exact stepMoves_refl
    · exact hres
  · exact hres

theorem stepMoves_truncateOp {h : Nat} {hd : Handle} (hr : RepIn s hd.repr) (n : Nat) (ret : Ret) {tg : List Nat} :
    StepMoves cfg s (truncateOp cfg s h hd n ret) tg := by
  unfold truncateOp
  split
  · refine stepMoves_dbg ?_
    cases hrep : hd.repr with
    | inline bs => exact stepMoves_put
    | borrowed a b c => exact stepMoves_put
    | heap o pb off len =>
      rw [hrep] at hr
      obtain ⟨x, hx, hl, _⟩ := hr
      simp only
      split
      · exact (move_release none hx hl).stepMovesH wsOk_nil
      · exact stepMoves_put
  · exact stepMoves_refl

theorem stepMoves_shrinkToOp {h : Nat} {hd : Handle} (hr : RepIn s hd.repr) (hv : hlen hd = (view s hd).length)
    (n : Nat) {tg : List Nat} : StepMoves cfg s (shrinkToOp cfg s h hd n) tg := by
  unfold shrinkToOp
  cases hrep : hd.repr with
  | inline bs => exact stepMoves_refl
  | borrowed a b c => exact stepMoves_refl
  | heap o pb off len =>
    rw [hrep] at hr
    obtain ⟨x, hx, hl, _⟩ := hr
    have hlen : (view s hd).length = len := by rw [← hv]; unfold hlen; rw [hrep]
    simp only [hx]
    split
    · split
      · exact stepMoves_refl
      · have hn := made_newHeap s (view s hd) (max n len) (by omega)
        exact (move_release_after hn.calm hx ((getI_newHeap_lt s _ _ (getI_some_lt hx)).trans hx) hl).stepMovesH wsOk_nil
    · exact (move_release none hx hl).stepMovesH wsOk_nil

theorem move_takeVec {h : Nat} {hd : Handle} (hr : RepIn s hd.repr) :
    let q := takeVec cfg s h hd
    Move cfg s none q.2.2 q.1 (some (q.2.1.2.2, q.2.1.2.1)) [] := by
  -- `Vec::from(self.as_slice())`, then the old value is dropped
  have hco := (move_dropRepr_after (cfg := cfg) (calm_copyAlloc s (view s hd).length) (fun _ _ hx => hx) hr).put h
    (some { hd with repr := .inline [] })
  unfold takeVec
  cases hrep : hd.repr with
  | inline bs => rw [hrep] at hco; exact hco
  | borrowed a b c => rw [hrep] at hco; exact hco
  | heap o pb off len =>
    rw [hrep] at hr hco
    obtain ⟨x, hx, hl, _⟩ := hr
    simp only [hx]
    split
    · rename_i hcond
      rw [Bool.and_eq_true] at hcond
      exact (move_steal hx hl hcond.2).put _ _
    · exact hco

theorem stepMoves_rangeInstall {hd : Handle} (hr : RepIn s hd.repr) (d a b : Nat) (ret : Ret) {tg : List Nat} :
    StepMoves cfg s (A.rangeInstall cfg s hd d a b ret) tg := by
  have k : ∀ (c : Prop) [Decidable c], StepMoves cfg s (if c then ok s .panic [] else
      install (rangeRepr cfg s hd a b).1 d (rangeRepr cfg s hd a b).2.1 hd.tainted ret (rangeRepr cfg s hd a b).2.2) tg := by
    intro c _
    split
    · exact stepMoves_refl
    · exact (calm_rangeRepr hr a b).stepMovesH
  exact k _

theorem stepMoves_repeat (w : Wf cfg s) (h d n : Nat) : StepMoves cfg s (step cfg s (.repeat h d n)) [h, d] := by
  rw [step_repeat]
  refine stepMoves_onSlot (fun hd hg => ?_)
  have hvl := (A.view_length (w.handles h hd hg)).symm
  split
  · split
    · exact (cloneRepr_post (repIn_of_wf w hg)).1.calm.stepMovesH
    · split
      · split
        · exact stepMoves_put
        · exact (made_newHeap s _ _ (by simp [hvl, Nat.mul_comm])).calm.stepMovesH
      · exact stepMoves_refl
  · exact stepMoves_refl

theorem stepMoves_intoOwned (h d : Nat) : StepMoves cfg s (step cfg s (.intoOwned h d)) [h, d] := by
  rw [step_intoOwned]
  refine stepMoves_onSlot (fun hd hg => ?_)
  split
  · split
    · exact ((fromSliceRepr_post s _).1.calm.put h none).stepMovesH
    · exact ((calm_refl s none).put h none).stepMovesH
  · exact stepMoves_refl

theorem stepMoves_pushSlice (w : Wf cfg s) (h : Nat) (bs : List UInt8) :
    StepMoves cfg s (step cfg s (.pushSlice h bs)) [h] := by
  rw [step_pushSlice]
  refine stepMoves_onSlot (fun hd hg => ?_)
  have hr := repIn_of_wf w hg
  have hvl := (A.view_length (w.handles h hd hg)).symm
  have hre : StepMoves cfg s (pushRealloc cfg s h hd bs) [h] := by
    unfold pushRealloc
    split
    · split
      · exact stepMoves_put
      · exact (move_dropRepr none hr).stepMovesH wsOk_nil
    · have hn := made_newHeap s (view s hd ++ bs) (hlen hd + bs.length)
        (by rw [List.length_append, hvl]; exact Nat.le_refl _)
      exact (move_dropRepr_after hn.calm (fun _ _ hx => (getI_newHeap_lt s _ _ (getI_some_lt hx)).trans hx) hr).stepMovesH wsOk_nil
  unfold pushInPlace
  cases hrep : hd.repr with
  | inline b0 => exact hre
  | borrowed a b c => exact hre
  | heap o pb off len =>
    have hok := w.handles h hd hg
    unfold HandleOk at hok
    rw [hrep] at hok
    obtain ⟨x, hx, hl, _, hrng⟩ := hok
    simp only [hx]
    by_cases hu : ownerUnique cfg s o = true
    · simp only [hu, if_true]
      have hws := wsOk_owner w hg (List.mem_singleton.mpr rfl) hrep hu
      have hkl : (x.data.take (off + len) ++ bs).length = off + len + bs.length := by
        rw [List.length_append, List.length_take, Nat.min_eq_left hrng]
      have hp := calm_poke none hx hl (x.data.take (off + len) ++ bs)
      by_cases hfit : (x.data.take (off + len) ++ bs).length ≤ x.cap
      · simp only [hfit, if_true]
        split
        · exact ((calm_write (p := some o) ⟨x, hx, hl, rfl, rfl⟩ (off + len) (off + len + bs.length)
            (Nat.le_add_right _ _) (by omega) (by omega)).trans hp).move.stepMovesH hws
        · exact hp.move.stepMovesH hws
      · simp only [hfit, if_false]
        have hge := growCap_ge x.cap (x.data.take (off + len) ++ bs).length
        have hx2 := getI_setI_same { s with nextBuf := s.nextBuf + 1 } o
          { x with data := x.data.take (off + len) ++ bs,
                   cap := growCap x.cap (x.data.take (off + len) ++ bs).length, buf := s.nextBuf } (getI_some_lt hx)
        exact ((calm_regrow hx hl none _ _ (growCap_pos _ _)).trans
          (calm_write (p := some o) ⟨_, hx2, hl, rfl, rfl⟩ (off + len) (off + len + bs.length)
            (Nat.le_add_right _ _) (by rw [← hkl]; exact hge) (growCap_pos _ _))).move.stepMovesH hws
    · simp only [hu]; exact hre

theorem stepMoves_asMutWrite (w : Wf cfg s) (h i : Nat) (b : UInt8) :
    StepMoves cfg s (step cfg s (.asMutWrite h i b)) [h] := by
  rw [step_asMutWrite]
  refine stepMoves_onSlot (fun hd hg => ?_)
  have hr := repIn_of_wf w hg
  cases hrep : hd.repr with
  | borrowed a b' c => exact stepMoves_refl
  | inline bs =>
    simp only [if_true]
    split
    · exact stepMoves_put
    · exact stepMoves_refl
  | heap o pb off len =>
    rw [hrep] at hr
    simp only
    split
    · rename_i hu
      split
      · exact (calm_writeView _ hr).move.stepMovesH (wsOk_owner w hg (List.mem_singleton.mpr rfl) hrep hu)
      · exact stepMoves_refl
    · exact stepMoves_refl

theorem stepMoves_spareCapacity (w : Wf cfg s) (h : Nat) : StepMoves cfg s (step cfg s (.spareCapacity h)) [h] := by
  rw [step_spareCapacity]
  refine stepMoves_onSlot (fun hd hg => ?_)
  have hr := repIn_of_wf w hg
  cases hrep : hd.repr with
  | inline bs => exact stepMoves_refl
  | borrowed a b' c => exact stepMoves_refl
  | heap o pb off len =>
    rw [hrep] at hr
    obtain ⟨x, hx, hl, _⟩ := hr
    simp only [hx]
    split
    · rename_i hu
      exact (calm_poke none hx hl _).move.stepMoves (wsOk_owner w hg (List.mem_singleton.mpr rfl) hrep hu)
    · exact stepMoves_refl

theorem stepMoves_write {p : State × Rep × List Event} (hm : Made s p) (f : List UInt8 → List UInt8)
    {tg : List Nat} (hws : WsOk s tg (ownerOf p.2.1)) (d : Nat) (v : Option Handle) (ret : Ret) :
    StepMoves cfg s (ok (setH (writeView p.1 p.2.1 f).1 d v) ret (p.2.2 ++ (writeView p.1 p.2.1 f).2.2)) tg :=
  (hm.calm.trans (calm_writeView f hm.repIn)).move.stepMovesH hws

/-- `make_unique` followed by a write: the box written is fresh or the value's own sole box -/
theorem stepMoves_uniqueWrite (w : Wf cfg s) {h : Nat} {hd : Handle} (hg : getH s h = some hd)
    (f : List UInt8 → List UInt8) : StepMoves cfg s (uniqueWrite cfg s h hd f) [h] := by
  have mu := makeUnique_post (cfg := cfg) (repIn_of_wf w hg)
  refine stepMoves_write mu.1 f ?_ h _ .unit
  intro o ho hlt
  cases hr1 : (makeUnique cfg s hd).2.1 with
  | inline bs => rw [hr1] at ho; cases ho
  | borrowed a b c => rw [hr1] at ho; cases ho
  | heap o' pb off len =>
    rw [hr1] at ho
    obtain ⟨hu, hrep⟩ := mu.2 o' pb off len hr1 (List.mem_singleton.mp ho ▸ hlt)
    exact wsOk_owner w hg (List.mem_singleton.mpr rfl) hrep hu o ho hlt

theorem stepMoves_toMutWrite (w : Wf cfg s) (h i : Nat) (b : UInt8) :
    StepMoves cfg s (step cfg s (.toMutWrite h i b)) [h] := by
  rw [step_toMutWrite]
  refine stepMoves_onSlot (fun hd hg => ?_)
  split
  · exact stepMoves_uniqueWrite w hg _
  · exact (makeUnique_post (repIn_of_wf w hg)).1.calm.stepMovesH

/-- `to_ascii_*case`: the clone is made unique before it is written, so the box written is never
one that existed before -/
theorem stepMoves_asciiInstall (w : Wf cfg s) {h : Nat} {hd : Handle} (hg : getH s h = some hd) (d : Nat)
    (g : UInt8 → UInt8) : StepMoves cfg s (A.asciiInstall cfg s hd d g) [h, d] := by
  have cl := cloneRepr_post (cfg := cfg) (repIn_of_wf w hg)
  have mu := makeUnique_post (cfg := cfg) (hd := { repr := (cloneRepr cfg s hd).2.1, tainted := hd.tainted }) cl.1.repIn
  have hm : Made s (_, _, (cloneRepr cfg s hd).2.2 ++ _) := ⟨cl.1.calm.trans mu.1.calm, mu.1.repIn⟩
  refine stepMoves_write hm (fun w => w.map g) ?_ d _ .unit
  intro o ho hlt
  exfalso
  cases hr1 : (makeUnique cfg (cloneRepr cfg s hd).1 { repr := (cloneRepr cfg s hd).2.1, tainted := hd.tainted }).2.1 with
  | inline bs => rw [hr1] at ho; cases ho
  | borrowed a b c => rw [hr1] at ho; cases ho
  | heap o' pb off len =>
    rw [hr1] at ho
    have ho' := List.mem_singleton.mp ho
    subst ho'
    obtain ⟨hu, hrep⟩ := mu.2 o pb off len hr1 (Nat.lt_of_lt_of_le hlt cl.1.calm.frame.length_le)
    rw [cl.2 o pb off len hrep hlt] at hu
    cases hu

theorem stepMoves_mutate (w : Wf cfg s) (h : Nat) (sc : List VecOp) :
    StepMoves cfg s (step cfg s (.mutate h sc)) [h] ∧ StepMoves cfg s (step cfg s (.mutateLeak h sc)) [h] := by
  rw [step_mutate, step_mutateLeak]
  have m : ∀ hd, getH s h = some hd → _ := fun hd hg => (move_takeVec (cfg := cfg) (h := h) (repIn_of_wf w hg)).then
    (calm_vecApply (takeVec cfg s h hd).1 sc (takeVec cfg s h hd).2.1.1 (takeVec cfg s h hd).2.1.2.1
      (takeVec cfg s h hd).2.1.2.2 (takeVec cfg s h hd).1.nextBuf)
  exact ⟨stepMoves_onSlot (fun hd hg => ((m hd hg).then (calm_fromVecRepr _ _ _ _)).stepMovesH wsOk_nil),
    stepMoves_onSlot (fun hd hg => ((m hd hg).then (calm_heldExport _ _ _)).stepMoves wsOk_nil)⟩

/-- `Vec::from(hip)` when the box cannot be unwrapped: a fresh Vec is filled and handed out, the
value is dropped -/
theorem calm_copyExport (S : State) (len : Nat) :
    Calm S none (if len > 0 then [Event.allocBuf S.nextBuf len, Event.write S.nextBuf 0 len,
      Event.exportBuf S.nextBuf] else []) { S with nextBuf := S.nextBuf + 1 } none [] := by
  have t := (calm_copyAlloc S len).trans (calm_heldExport _ S.nextBuf len)
  by_cases hl : 0 < len
  · simp only [gt_iff_lt, hl, if_true] at t ⊢
    exact t
  · simp only [gt_iff_lt, hl, if_false] at t ⊢
    exact t

theorem stepMoves_stealVec {h : Nat} {hd : Handle} (hr : RepIn s hd.repr) {alt : State × Out}
    (halt : StepMoves cfg s alt [h]) :
    StepMoves cfg s (match stealVec cfg s h hd with | some r => r | none => alt) [h] := by
  unfold stealVec
  cases hrep : hd.repr with
  | inline bs => exact halt
  | borrowed a b c => exact halt
  | heap o pb off len =>
    rw [hrep] at hr
    obtain ⟨x, hx, hl, _⟩ := hr
    simp only [hx]
    by_cases hcond : (off == 0 && ownerUnique cfg s o) = true
    · simp only [hcond, if_true]
      rw [Bool.and_eq_true] at hcond
      exact ((move_steal hx hl hcond.2).then (calm_heldExport _ x.buf x.cap)).stepMovesH wsOk_nil
    · simp only [hcond]
      exact halt

theorem step_moves (w : Wf cfg s) (op : Op) : StepMoves cfg s (step cfg s op) (targets op) := by
  cases op with
  | new d =>
    rw [step_new]
    split
    · exact stepMoves_put
    · exact stepMoves_refl
  | fromSlice d bs =>
    rw [step_fromSlice]
    split
    · exact (fromSliceRepr_post s bs).1.calm.stepMovesH
    · exact stepMoves_refl
  | fromVec d bs cap =>
    rw [step_fromVec]
    split
    · exact ((calm_heldEnter s cap (.importBuf s.nextBuf cap) (Or.inr rfl)).trans
        (calm_fromVecRepr _ bs cap s.nextBuf)).stepMovesH
    · exact stepMoves_refl
  | borrowed d src off len =>
    rw [step_borrowed]
    split
    · exact stepMoves_put
    · exact stepMoves_refl
  | withCapacity d n =>
    rw [step_withCapacity]
    split
    · split
      · exact stepMoves_put
      · exact (made_newHeap s [] n (Nat.zero_le _)).calm.stepMovesH
    · exact stepMoves_refl
  | inline d bs =>
    rw [step_inline]
    split
    · split
      · exact stepMoves_put
      · exact stepMoves_refl
    · exact stepMoves_refl
  | tryInline d bs =>
    rw [step_tryInline]
    split
    · split
      · exact stepMoves_put
      · exact stepMoves_refl
    · exact stepMoves_refl
  | clone h d =>
    rw [step_clone]
    refine stepMoves_onSlot (fun hd hg => ?_)
    split
    · exact (cloneRepr_post (repIn_of_wf w hg)).1.calm.stepMovesH
    · exact stepMoves_refl
  | slice h d sb eb =>
    rw [step_slice]
    refine stepMoves_onSlot (fun hd hg => ?_)
    split
    · split
      · exact stepMoves_rangeInstall (repIn_of_wf w hg) _ _ _ _
      · exact stepMoves_refl
    · exact stepMoves_refl
  | trySlice h d sb eb =>
    rw [step_trySlice]
    refine stepMoves_onSlot (fun hd hg => ?_)
    split
    · split
      · exact stepMoves_rangeInstall (repIn_of_wf w hg) _ _ _ _
      · exact stepMoves_refl
      · exact stepMoves_refl
    · exact stepMoves_refl
  | trySliceRef h d rn rel plen =>
    rw [step_trySliceRef]
    refine stepMoves_onSlot (fun hd hg => ?_)
    split
    · split
      · exact stepMoves_rangeInstall (repIn_of_wf w hg) _ _ _ _
      · exact stepMoves_refl
      · exact stepMoves_refl
    · exact stepMoves_refl
  | sliceRef h d rn rel plen =>
    rw [step_sliceRef]
    refine stepMoves_onSlot (fun hd hg => ?_)
    split
    · split
      · exact stepMoves_rangeInstall (repIn_of_wf w hg) _ _ _ _
      · exact stepMoves_refl
    · exact stepMoves_refl
  | adopt h d off len =>
    rw [step_adopt]
    refine stepMoves_onSlot (fun hd hg => ?_)
    split
    · exact stepMoves_rangeInstall (repIn_of_wf w hg) _ _ _ _
    · exact stepMoves_refl
  | pushSlice h bs => exact stepMoves_pushSlice w h bs
  | pop h =>
    rw [step_pop]
    refine stepMoves_onSlot (fun hd hg => ?_)
    split
    · exact stepMoves_refl
    · exact stepMoves_truncateOp (repIn_of_wf w hg) _ _
  | truncate h n =>
    rw [step_truncate]
    exact stepMoves_onSlot (fun hd hg => stepMoves_truncateOp (repIn_of_wf w hg) _ _)
  | clear h =>
    rw [step_clear]
    exact stepMoves_onSlot (fun hd hg => stepMoves_truncateOp (repIn_of_wf w hg) _ _)
  | shrinkTo h n =>
    rw [step_shrinkTo]
    exact stepMoves_onSlot (fun hd hg => stepMoves_shrinkToOp (repIn_of_wf w hg) (A.view_length (w.handles h hd hg)).symm _)
  | shrinkToFit h =>
    rw [step_shrinkToFit]
    exact stepMoves_onSlot (fun hd hg => stepMoves_shrinkToOp (repIn_of_wf w hg) (A.view_length (w.handles h hd hg)).symm _)
  | asMutWrite h i b => exact stepMoves_asMutWrite w h i b
  | toMutWrite h i b => exact stepMoves_toMutWrite w h i b
  | makeAsciiLower h =>
    rw [step_makeAsciiLower]
    exact stepMoves_onSlot (fun hd hg => stepMoves_uniqueWrite w hg _)
  | makeAsciiUpper h =>
    rw [step_makeAsciiUpper]
    exact stepMoves_onSlot (fun hd hg => stepMoves_uniqueWrite w hg _)
  | toAsciiLower h d =>
    rw [step_toAsciiLower]
    refine stepMoves_onSlot (fun hd hg => ?_)
    split
    · exact stepMoves_asciiInstall w hg d _
    · exact stepMoves_refl
  | toAsciiUpper h d =>
    rw [step_toAsciiUpper]
    refine stepMoves_onSlot (fun hd hg => ?_)
    split
    · exact stepMoves_asciiInstall w hg d _
    · exact stepMoves_refl
  | mutate h sc => exact (stepMoves_mutate w h sc).1
  | mutateLeak h sc => exact (stepMoves_mutate w h sc).2
  | intoOwned h d => exact stepMoves_intoOwned h d
  | intoVec h =>
    rw [step_intoVec]
    exact stepMoves_onSlot (fun hd hg => stepMoves_stealVec (repIn_of_wf w hg) stepMoves_refl)
  | toVec h =>
    rw [step_toVec]
    -- `to_vec` of the slice, then the value is dropped
    exact stepMoves_onSlot (fun hd hg => stepMoves_stealVec (repIn_of_wf w hg)
      ((move_dropRepr_after (calm_copyExport s (view s hd).length) (fun _ _ hx => hx) (repIn_of_wf w hg)).stepMovesH
        wsOk_nil))
  | intoBorrowed h =>
    rw [step_intoBorrowed]
    refine stepMoves_onSlot (fun hd hg => ?_)
    split
    · exact stepMoves_put
    · exact stepMoves_refl
  | «repeat» h d n => exact stepMoves_repeat w h d n
  | spareCapacity h => exact stepMoves_spareCapacity w h
  | drop h =>
    rw [step_drop]
    exact stepMoves_onSlot (fun hd hg => (move_dropRepr none (repIn_of_wf w hg)).stepMovesH wsOk_nil)

theorem step_trans (w : Wf cfg s) (op : Op) :
    Trans s none (step cfg s op).2.events (step cfg s op).1 none :=
  let ⟨_, m, _⟩ := step_moves w op
  m.ledger

end HipVerif.Core
