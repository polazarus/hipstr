/-
The buffer ledger of the Core state machine (C03 at the buffer level): which buffer identities
are in the system, with which capacity, according to the allocator-visible events alone; the
checks every event must pass against the ledger; and the abstract invariant tying a ledger to a
set of owners.  State-independent part (definitions, abstract transitions, trace corollaries).
-/
import HipVerif.Model.Core

namespace HipVerif.Core

/-- What the events so far say about buffers: `live` = buffers that entered the system and have
not left, with the capacity they entered / were last grown with; `gone` = buffers that left. -/
structure Ledger where
  live : List (Nat × Nat)
  gone : List Nat
  deriving Repr

namespace Ledger

def empty : Ledger := ⟨[], []⟩
def liveIds (L : Ledger) : List Nat := L.live.map (·.1)
def ids (L : Ledger) : List Nat := L.liveIds ++ L.gone
def enter (L : Ledger) (b c : Nat) : Ledger := ⟨(b, c) :: L.live, L.gone⟩
def leave (L : Ledger) (b : Nat) : Ledger := ⟨L.live.filter (fun p => p.1 != b), b :: L.gone⟩

def apply (L : Ledger) : Event → Ledger
  | .allocBuf b c => L.enter b c
  | .importBuf b c => L.enter b c
  | .growBuf old new c => (L.leave old).enter new c
  | .freeBuf b => L.leave b
  | .exportBuf b => L.leave b
  | .allocInner _ => L
  | .freeInner _ => L
  | .write _ _ _ => L

def run (L : Ledger) (evs : List Event) : Ledger := evs.foldl apply L

@[simp] theorem run_nil (L : Ledger) : L.run [] = L := rfl
@[simp] theorem run_cons (L : Ledger) (e : Event) (r : List Event) : L.run (e :: r) = (L.apply e).run r := rfl
theorem run_append (L : Ledger) (a b : List Event) : L.run (a ++ b) = (L.run a).run b := by
  simp [run, List.foldl_append]

theorem mem_liveIds {L : Ledger} {b : Nat} : b ∈ L.liveIds ↔ ∃ c, (b, c) ∈ L.live := by
  simp [liveIds]

theorem mem_leave_live {L : Ledger} {b0 b c : Nat} : (b, c) ∈ (L.leave b0).live ↔ (b, c) ∈ L.live ∧ b ≠ b0 := by
  simp [leave]

end Ledger

/-- The check an event must pass against the ledger of the events before it. -/
def EvGood (L : Ledger) : Event → Prop
  | .allocBuf b c => 0 < c ∧ b ∉ L.ids
  | .importBuf b c => 0 < c ∧ b ∉ L.ids
  | .growBuf old new c => old ∈ L.liveIds ∧ new ∉ L.ids ∧ 0 < c
  | .freeBuf b => b ∈ L.liveIds
  | .exportBuf b => b ∈ L.liveIds
  | .write b lo hi => lo ≤ hi ∧ ∃ c, (b, c) ∈ L.live ∧ hi ≤ c
  | .allocInner _ => True
  | .freeInner _ => True

def Accepted : Ledger → List Event → Prop
  | _, [] => True
  | L, e :: r => EvGood L e ∧ Accepted (L.apply e) r

theorem accepted_append {L : Ledger} {a b : List Event} :
    Accepted L (a ++ b) ↔ Accepted L a ∧ Accepted (L.run a) b := by
  induction a generalizing L with
  | nil => simp [Accepted]
  | cons e r ih => simp [Accepted, ih, and_assoc]

/-! ### the abstract invariant: a ledger against a set of owners -/

/-- `R pos b c`: position `pos` (a box index, or `none` = a `Vec` held in a local variable) owns
buffer `b` with capacity `c`.  `n` is the next unused buffer identity. -/
structure LInvR (R : Option Nat → Nat → Nat → Prop) (n : Nat) (L : Ledger) : Prop where
  fresh : ∀ p b c, R p b c → b < n
  idsFresh : ∀ b, b ∈ L.ids → b < n
  inj : ∀ p p' b c c', R p b c → R p' b c' → p = p'
  func : ∀ p b b' c c', R p b c → R p b' c' → b = b' ∧ c = c'
  live_iff : ∀ b c, (b, c) ∈ L.live ↔ 0 < c ∧ ∃ p, R p b c
  gone : ∀ p b c, R p b c → b ∉ L.gone

theorem LInvR.congr {R R' : Option Nat → Nat → Nat → Prop} {n : Nat} {L : Ledger} (h : LInvR R n L)
    (e : ∀ p b c, R' p b c ↔ R p b c) : LInvR R' n L :=
  { fresh := fun p b c r => h.fresh p b c ((e p b c).mp r),
    idsFresh := h.idsFresh,
    inj := fun p p' b c c' r r' => h.inj p p' b c c' ((e _ _ _).mp r) ((e _ _ _).mp r'),
    func := fun p b b' c c' r r' => h.func p b b' c c' ((e _ _ _).mp r) ((e _ _ _).mp r'),
    live_iff := fun b c => by
      rw [h.live_iff]
      constructor
      · intro ⟨hc, p, r⟩; exact ⟨hc, p, (e _ _ _).mpr r⟩
      · intro ⟨hc, p, r⟩; exact ⟨hc, p, (e _ _ _).mp r⟩,
    gone := fun p b c r => h.gone p b c ((e p b c).mp r) }

theorem LInvR.mono {R : Option Nat → Nat → Nat → Prop} {n n' : Nat} {L : Ledger} (h : LInvR R n L)
    (hn : n ≤ n') : LInvR R n' L :=
  { h with fresh := fun p b c r => Nat.lt_of_lt_of_le (h.fresh p b c r) hn,
           idsFresh := fun b hb => Nat.lt_of_lt_of_le (h.idsFresh b hb) hn }

theorem LInvR.cap0_unseen {R : Option Nat → Nat → Nat → Prop} {n : Nat} {L : Ledger} (h : LInvR R n L)
    {p : Option Nat} {b : Nat} (r : R p b 0) : b ∉ L.ids := by
  intro hb
  rcases List.mem_append.mp hb with hb | hb
  · obtain ⟨c, hc⟩ := Ledger.mem_liveIds.mp hb
    obtain ⟨hpos, p', r'⟩ := (h.live_iff b c).mp hc
    have := h.inj p p' b 0 c r r'
    subst this
    have := (h.func p b b 0 c r r').2
    omega
  · exact h.gone p b 0 r hb

theorem LInvR.owned_in {R : Option Nat → Nat → Nat → Prop} {n : Nat} {L : Ledger} (h : LInvR R n L)
    {p : Option Nat} {b c : Nat} (r : R p b c) (hc : 0 < c) : (b, c) ∈ L.live :=
  (h.live_iff b c).mpr ⟨hc, p, r⟩

/-- a new owner with a fresh buffer: the buffer enters (if it has a capacity at all) -/
theorem LInvR.add {R : Option Nat → Nat → Nat → Prop} {n n' : Nat} {L : Ledger} (h : LInvR R n L)
    (p0 : Option Nat) (b0 c0 : Nat) (hfree : ∀ b c, ¬ R p0 b c) (hb : n ≤ b0) (hn : b0 < n') :
    LInvR (fun p b c => R p b c ∨ (p = p0 ∧ b = b0 ∧ c = c0)) n' (if 0 < c0 then L.enter b0 c0 else L) ∧
    b0 ∉ L.ids := by
  have hunseen : b0 ∉ L.ids := fun hm => by have := h.idsFresh b0 hm; omega
  have hle : n ≤ n' := by omega
  refine ⟨?_, hunseen⟩
  refine { fresh := ?_, idsFresh := ?_, inj := ?_, func := ?_, live_iff := ?_, gone := ?_ }
  · intro p b c r
    rcases r with r | ⟨_, rfl, _⟩
    · have := h.fresh p b c r; omega
    · exact hn
  · intro b hbm
    split at hbm
    · simp only [Ledger.ids, Ledger.liveIds, Ledger.enter, List.map_cons, List.cons_append, List.mem_cons] at hbm
      rcases hbm with rfl | hbm
      · exact hn
      · have := h.idsFresh b hbm; omega
    · have := h.idsFresh b hbm; omega
  · intro p p' b c c' r r'
    rcases r with r | ⟨rfl, rfl, rfl⟩
    · rcases r' with r' | ⟨rfl, rfl, rfl⟩
      · exact h.inj p p' b c c' r r'
      · have := h.fresh p _ c r; omega
    · rcases r' with r' | ⟨rfl, _, _⟩
      · have := h.fresh p' _ c' r'; omega
      · rfl
  · intro p b b' c c' r r'
    rcases r with r | ⟨rfl, rfl, rfl⟩
    · rcases r' with r' | ⟨rfl, rfl, rfl⟩
      · exact h.func p b b' c c' r r'
      · exact absurd r (hfree _ _)
    · rcases r' with r' | ⟨_, rfl, rfl⟩
      · exact absurd r' (hfree _ _)
      · exact ⟨rfl, rfl⟩
  · intro b c
    split
    · rename_i hc0
      simp only [Ledger.enter, List.mem_cons, Prod.mk.injEq]
      rw [h.live_iff]
      constructor
      · rintro (⟨rfl, rfl⟩ | ⟨hc, p, r⟩)
        · exact ⟨hc0, p0, Or.inr ⟨rfl, rfl, rfl⟩⟩
        · exact ⟨hc, p, Or.inl r⟩
      · rintro ⟨hc, p, r | ⟨rfl, rfl, rfl⟩⟩
        · exact Or.inr ⟨hc, p, r⟩
        · exact Or.inl ⟨rfl, rfl⟩
    · rename_i hc0
      rw [h.live_iff]
      constructor
      · rintro ⟨hc, p, r⟩; exact ⟨hc, p, Or.inl r⟩
      · rintro ⟨hc, p, r | ⟨rfl, rfl, rfl⟩⟩
        · exact ⟨hc, p, r⟩
        · exact absurd hc hc0
  · intro p b c r
    have hg : (if 0 < c0 then L.enter b0 c0 else L).gone = L.gone := by split <;> rfl
    rw [hg]
    rcases r with r | ⟨_, rfl, _⟩
    · exact h.gone p b c r
    · exact fun hm => hunseen (List.mem_append.mpr (Or.inr hm))

/-- an owner disappears: its buffer leaves -/
theorem LInvR.del {R : Option Nat → Nat → Nat → Prop} {n : Nat} {L : Ledger} (h : LInvR R n L)
    {p0 : Option Nat} {b0 c0 : Nat} (r0 : R p0 b0 c0) :
    LInvR (fun p b c => R p b c ∧ p ≠ p0) n (L.leave b0) ∧
    (0 < c0 → b0 ∈ L.liveIds) ∧ (c0 = 0 → b0 ∉ L.ids) := by
  refine ⟨?_, fun hc => Ledger.mem_liveIds.mpr ⟨c0, h.owned_in r0 hc⟩, fun hc => by subst hc; exact h.cap0_unseen r0⟩
  refine { fresh := ?_, idsFresh := ?_, inj := ?_, func := ?_, live_iff := ?_, gone := ?_ }
  · intro p b c r; exact h.fresh p b c r.1
  · intro b hbm
    simp only [Ledger.ids, Ledger.liveIds, Ledger.leave, List.mem_append, List.mem_map, List.mem_filter,
      List.mem_cons] at hbm
    rcases hbm with ⟨q, ⟨hq, _⟩, rfl⟩ | rfl | hg
    · exact h.idsFresh _ (List.mem_append.mpr (Or.inl (List.mem_map.mpr ⟨q, hq, rfl⟩)))
    · exact h.fresh p0 _ c0 r0
    · exact h.idsFresh _ (List.mem_append.mpr (Or.inr hg))
  · intro p p' b c c' r r'; exact h.inj p p' b c c' r.1 r'.1
  · intro p b b' c c' r r'; exact h.func p b b' c c' r.1 r'.1
  · intro b c
    rw [Ledger.mem_leave_live, h.live_iff]
    constructor
    · rintro ⟨⟨hc, p, r⟩, hne⟩
      refine ⟨hc, p, r, ?_⟩
      rintro rfl
      exact hne (h.func _ b b0 c c0 r r0).1
    · rintro ⟨hc, p, r, hp⟩
      refine ⟨⟨hc, p, r⟩, ?_⟩
      rintro rfl
      exact hp (h.inj p p0 _ c c0 r r0)
  · intro p b c r
    simp only [Ledger.leave, List.mem_cons, not_or]
    refine ⟨?_, h.gone p b c r.1⟩
    rintro rfl
    exact r.2 (h.inj p p0 _ c c0 r.1 r0)

theorem LInvR.del_cap0 {R : Option Nat → Nat → Nat → Prop} {n : Nat} {L : Ledger} (h : LInvR R n L)
    {p0 : Option Nat} {b0 : Nat} (r0 : R p0 b0 0) :
    LInvR (fun p b c => R p b c ∧ p ≠ p0) n L := by
  refine { fresh := fun p b c r => h.fresh p b c r.1, idsFresh := h.idsFresh,
           inj := fun p p' b c c' r r' => h.inj p p' b c c' r.1 r'.1,
           func := fun p b b' c c' r r' => h.func p b b' c c' r.1 r'.1,
           live_iff := ?_, gone := fun p b c r => h.gone p b c r.1 }
  intro b c
  rw [h.live_iff]
  constructor
  · rintro ⟨hc, p, r⟩
    refine ⟨hc, p, r, ?_⟩
    rintro rfl
    have := (h.func _ b b0 c 0 r r0).2
    omega
  · rintro ⟨hc, p, r, _⟩; exact ⟨hc, p, r⟩

/-- a Vec moves from one position to another (boxed, or taken out of its box): no buffer event -/
theorem LInvR.move {R : Option Nat → Nat → Nat → Prop} {n : Nat} {L : Ledger} (h : LInvR R n L)
    (p0 p1 : Option Nat) (hfree : ∀ b c, ¬ R p1 b c) :
    LInvR (fun p b c => (R p b c ∧ p ≠ p0) ∨ (p = p1 ∧ R p0 b c)) n L := by
  refine { fresh := ?_, idsFresh := h.idsFresh, inj := ?_, func := ?_, live_iff := ?_, gone := ?_ }
  · rintro p b c (r | ⟨_, r⟩)
    · exact h.fresh p b c r.1
    · exact h.fresh p0 b c r
  · rintro p p' b c c' (r | ⟨rfl, r⟩) (r' | ⟨rfl, r'⟩)
    · exact h.inj p p' b c c' r.1 r'.1
    · exact absurd (h.inj p p0 b c c' r.1 r') r.2
    · exact absurd (h.inj p' p0 b c' c r'.1 r) r'.2
    · rfl
  · rintro p b b' c c' (r | ⟨rfl, r⟩) (r' | ⟨hp, r'⟩)
    · exact h.func p b b' c c' r.1 r'.1
    · subst hp; exact absurd r.1 (hfree _ _)
    · exact absurd r'.1 (hfree _ _)
    · exact h.func p0 b b' c c' r r'
  · intro b c
    rw [h.live_iff]
    constructor
    · rintro ⟨hc, p, r⟩
      by_cases hp : p = p0
      · subst hp; exact ⟨hc, p1, Or.inr ⟨rfl, r⟩⟩
      · exact ⟨hc, p, Or.inl ⟨r, hp⟩⟩
    · rintro ⟨hc, p, r | ⟨_, r⟩⟩
      · exact ⟨hc, p, r.1⟩
      · exact ⟨hc, p0, r⟩
  · rintro p b c (r | ⟨_, r⟩)
    · exact h.gone p b c r.1
    · exact h.gone p0 b c r

end HipVerif.Core
