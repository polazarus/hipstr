/-
A frame calculus for the Core state machine: what a step may do to the list of boxes
(`inners`) and which `freeInner` events it emits.  `CoreMove.lean` walks the helper functions of
`step` with it.
-/
import HipVerif.Lemmas.CoreStep

namespace HipVerif.Core
open HipVerif.Spec.Std

def freesOf : List Event → List Nat
  | [] => []
  | .freeInner i :: r => i :: freesOf r
  | .allocInner _ :: r => freesOf r
  | .allocBuf _ _ :: r => freesOf r
  | .freeBuf _ :: r => freesOf r
  | .growBuf _ _ _ :: r => freesOf r
  | .importBuf _ _ :: r => freesOf r
  | .exportBuf _ :: r => freesOf r
  | .write _ _ _ :: r => freesOf r

@[simp] theorem freesOf_nil : freesOf [] = [] := rfl

@[simp] theorem freesOf_append (a b : List Event) : freesOf (a ++ b) = freesOf a ++ freesOf b := by
  induction a with
  | nil => rfl
  | cons e r ih => cases e <;> simp [freesOf, ih]

theorem mem_freesOf {i : Nat} {ev : List Event} : Event.freeInner i ∈ ev ↔ i ∈ freesOf ev := by
  induction ev with
  | nil => simp
  | cons e r ih => cases e <;> simp [freesOf, ih]

theorem count_freesOf (i : Nat) (ev : List Event) : ev.count (.freeInner i) = (freesOf ev).count i := by
  induction ev with
  | nil => rfl
  | cons e r ih =>
    cases e <;> simp [freesOf, List.count_cons, ih]

/-- `Frame s s' fs ws`: every box of `s` still exists in `s'`; a box that was already freed is
untouched; liveness changes only for the boxes in `fs`; the owner `Vec` (bytes, capacity, buffer)
changes only for the boxes in `ws`. -/
def Frame (s s' : State) (fs ws : List Nat) : Prop :=
  ∀ i x, getI s i = some x → ∃ y, getI s' i = some y ∧ (x.live = false → y = x) ∧
    (i ∉ fs → y.live = x.live) ∧ (i ∉ ws → y.data = x.data ∧ y.cap = x.cap ∧ y.buf = x.buf)

theorem frame_of_getI {s s' : State} (h : ∀ i, getI s' i = getI s i) : Frame s s' [] [] := by
  intro i x hx
  exact ⟨x, by rw [h]; exact hx, fun _ => rfl, fun _ => rfl, fun _ => ⟨rfl, rfl, rfl⟩⟩

theorem frame_refl (s : State) : Frame s s [] [] := frame_of_getI (fun _ => rfl)

theorem Frame.trans {s s1 s2 : State} {fs1 ws1 fs2 ws2 : List Nat} (f1 : Frame s s1 fs1 ws1)
    (f2 : Frame s1 s2 fs2 ws2) : Frame s s2 (fs1 ++ fs2) (ws1 ++ ws2) := by
  intro i x hx
  obtain ⟨y, hy, hd1, hl1, hw1⟩ := f1 i x hx
  obtain ⟨z, hz, hd2, hl2, hw2⟩ := f2 i y hy
  refine ⟨z, hz, ?_, ?_, ?_⟩
  · intro hdead
    have := hd1 hdead; subst this
    exact hd2 hdead
  · intro hni
    simp only [List.mem_append, not_or] at hni
    rw [hl2 hni.2, hl1 hni.1]
  · intro hni
    simp only [List.mem_append, not_or] at hni
    obtain ⟨a1, a2, a3⟩ := hw1 hni.1
    obtain ⟨b1, b2, b3⟩ := hw2 hni.2
    exact ⟨b1.trans a1, b2.trans a2, b3.trans a3⟩

theorem Frame.restrict {s s' : State} {fs ws : List Nat} (f : Frame s s' fs ws) :
    Frame s s' fs (ws.filter (fun o => decide (o < s.inners.length))) := by
  intro i x hx
  obtain ⟨y, hy, hd, hl, hwd⟩ := f i x hx
  refine ⟨y, hy, hd, hl, fun hn => hwd (fun hm => hn ?_)⟩
  simp only [List.mem_filter, decide_eq_true_eq]
  exact ⟨hm, getI_some_lt hx⟩

theorem frame_append (s : State) (x : Inner) : Frame s { s with inners := s.inners ++ [x] } [] [] := by
  intro i y hy
  exact ⟨y, by rw [getI_append_lt _ _ _ (getI_some_lt hy)]; exact hy, fun _ => rfl, fun _ => rfl,
    fun _ => ⟨rfl, rfl, rfl⟩⟩

theorem frame_setI {s : State} {o : Nat} {x x' : Inner} {fs ws : List Nat} (hx : getI s o = some x)
    (hl : x.live = true) (hf : o ∉ fs → x'.live = true)
    (hw : o ∉ ws → x'.data = x.data ∧ x'.cap = x.cap ∧ x'.buf = x.buf) : Frame s (setI s o x') fs ws := by
  intro i y hy
  by_cases hio : o = i
  · subst hio
    rw [hx] at hy; cases hy
    refine ⟨x', getI_setI_same _ _ _ (getI_some_lt hx), ?_, fun hn => by rw [hf hn, hl], hw⟩
    intro hd; rw [hl] at hd; cases hd
  · exact ⟨y, by rw [getI_setI_other _ _ _ _ hio]; exact hy, fun _ => rfl, fun _ => rfl, fun _ => ⟨rfl, rfl, rfl⟩⟩

theorem Frame.length_le {s s' : State} {fs ws : List Nat} (f : Frame s s' fs ws) :
    s.inners.length ≤ s'.inners.length := by
  apply Nat.le_of_not_lt
  intro hlt
  obtain ⟨y, hy, _⟩ := f s'.inners.length _ (List.getElem?_eq_getElem hlt)
  exact Nat.lt_irrefl _ (getI_some_lt hy)

/-- `Eff cfg s s' fs ws`: the transition `s → s'` frees exactly the boxes `fs` (at most one), each
of them live before with its last share being released, and dead afterwards. -/
structure Eff (cfg : Cfg) (s s' : State) (fs ws : List Nat) : Prop where
  frame : Frame s s' fs ws
  once : fs.length ≤ 1
  freed : ∀ o, o ∈ fs → ∃ x y, getI s o = some x ∧ x.live = true ∧
    (cfg.backend = .unique ∨ x.count = 0) ∧ getI s' o = some y ∧ y.live = false

theorem eff_of_frame {cfg : Cfg} {s s' : State} {ws : List Nat} (f : Frame s s' [] ws) : Eff cfg s s' [] ws :=
  ⟨f, Nat.zero_le _, fun _ h => by cases h⟩

theorem Eff.then_frame {cfg : Cfg} {s s1 s2 : State} {fs ws ws2 : List Nat} (e : Eff cfg s s1 fs ws)
    (f : Frame s1 s2 [] ws2) : Eff cfg s s2 fs (ws ++ ws2) := by
  refine ⟨by simpa using e.frame.trans f, e.once, ?_⟩
  intro o ho
  obtain ⟨x, y, hx, hl, hc, hy, hyd⟩ := e.freed o ho
  obtain ⟨z, hz, hzd, _, _⟩ := f o y hy
  have := hzd hyd; subst this
  exact ⟨x, z, hx, hl, hc, hz, hyd⟩

/-- a free may follow other changes if they left the freed box as it was: the justification of a
`freeInner` speaks of the state before the whole transition -/
theorem Eff.after_frame {cfg : Cfg} {s s1 s2 : State} {fs ws ws1 : List Nat} (f : Frame s s1 [] ws1)
    (e : Eff cfg s1 s2 fs ws) (hsame : ∀ o, o ∈ fs → getI s1 o = getI s o) : Eff cfg s s2 fs (ws1 ++ ws) := by
  refine ⟨by simpa using f.trans e.frame, e.once, ?_⟩
  intro o ho
  obtain ⟨x, y, hx, hl, hc, hy, hyd⟩ := e.freed o ho
  rw [hsame o ho] at hx
  exact ⟨x, y, hx, hl, hc, hy, hyd⟩

theorem eff_kill {cfg : Cfg} {s : State} {o : Nat} {x : Inner} (hx : getI s o = some x)
    (hl : x.live = true) (hc : cfg.backend = .unique ∨ x.count = 0) :
    Eff cfg s (setI s o { x with live := false }) [o] [] :=
  ⟨frame_setI hx hl (fun hn => absurd (List.mem_singleton.mpr rfl) hn) (fun _ => ⟨rfl, rfl, rfl⟩),
    Nat.le_refl _, fun o' ho' => by
    simp only [List.mem_singleton] at ho'; subst ho'
    exact ⟨x, _, hx, hl, hc, getI_setI_same _ _ _ (getI_some_lt hx), rfl⟩⟩

@[simp] theorem freesOf_boxVec (s : State) (data : List UInt8) (cap buf : Nat) :
    freesOf (boxVec s data cap buf).2.2 = [] := rfl

/-- the pool slots an operation reads (`h`) or writes (`d`) -/
def targets : Op → List Nat
  | .new d | .fromSlice d _ | .fromVec d _ _ | .borrowed d _ _ _ | .withCapacity d _
  | .inline d _ | .tryInline d _ => [d]
  | .clone h d | .slice h d _ _ | .trySlice h d _ _ | .trySliceRef h d _ _ _ | .sliceRef h d _ _ _
  | .adopt h d _ _ | .toAsciiLower h d | .toAsciiUpper h d | .intoOwned h d | .repeat h d _ => [h, d]
  | .pushSlice h _ | .pop h | .truncate h _ | .clear h | .shrinkTo h _ | .shrinkToFit h
  | .asMutWrite h _ _ | .toMutWrite h _ _ | .makeAsciiLower h | .makeAsciiUpper h
  | .mutate h _ | .mutateLeak h _ | .intoVec h | .toVec h | .intoBorrowed h | .spareCapacity h
  | .drop h => [h]

def WsOk (s : State) (tg ws : List Nat) : Prop :=
  ∀ o, o ∈ ws → o < s.inners.length → refsTo s o = 1 ∧ ∃ h, h ∈ tg ∧ pointsTo o (getH s h) = true

end HipVerif.Core
