import HipVerif.Model.Views

/-!
# Lemmas for C12: laws of the views, soundness of `rowOk` / `borrowOk`

All statements are for every byte string (no bounds).

Second half: the transcription of std's `Path::hash` byte loop (`pathHashLoop`) equals the stream
defined on `components` (`pathHashLoop_eq`), and `components` depends only on whether the path is
rooted, its first piece and the components of its pieces (`components_congr`).
-/

namespace HipVerif.Views

structure LawfulCmp {α : Type} (c : α → α → Ordering) : Prop where
  eq_iff : ∀ a b, c a b = .eq ↔ a = b
  swap : ∀ a b, c b a = (c a b).swap
  trans : ∀ a b d, c a b = .lt → c b d = .lt → c a d = .lt

theorem cmpByte_lawful : LawfulCmp cmpByte where
  eq_iff a b := by rw [cmpByte, Nat.compare_eq_eq, UInt8.toNat_inj]
  swap a b := (Nat.compare_swap _ _).symm
  trans a b d := by
    simp only [cmpByte, Nat.compare_eq_lt]
    exact Nat.lt_trans

theorem lexBy_cons {α : Type} (c : α → α → Ordering) (a b : α) (as bs : List α) :
    lexBy c (a :: as) (b :: bs) = (c a b).then (lexBy c as bs) := by
  rw [lexBy]
  cases c a b <;> rfl

theorem lexBy_eq_iff {α : Type} {c : α → α → Ordering} (hc : ∀ a b, c a b = .eq ↔ a = b) :
    ∀ x y, lexBy c x y = .eq ↔ x = y
  | [], [] | [], _ :: _ | _ :: _, [] => by simp [lexBy]
  | a :: as, b :: bs => by
    rw [lexBy_cons, Ordering.then_eq_eq, hc, lexBy_eq_iff hc as bs, List.cons.injEq]

theorem lexBy_swap {α : Type} {c : α → α → Ordering} (hs : ∀ a b, c b a = (c a b).swap) :
    ∀ x y, lexBy c y x = (lexBy c x y).swap
  | [], [] | [], _ :: _ | _ :: _, [] => rfl
  | a :: as, b :: bs => by
    rw [lexBy_cons, lexBy_cons, Ordering.swap_then, hs a b, lexBy_swap hs as bs]

theorem lexBy_trans {α : Type} {c : α → α → Ordering} (hc : LawfulCmp c) :
    ∀ x y z, lexBy c x y = .lt → lexBy c y z = .lt → lexBy c x z = .lt
  | [], [], _ | _ :: _, [], _ => fun h _ => nomatch h
  | [], _ :: _, [] | _ :: _, _ :: _, [] => fun _ h => nomatch h
  | [], _ :: _, _ :: _ => fun _ _ => rfl
  | a :: as, b :: bs, d :: ds => by
    simp only [lexBy_cons, Ordering.then_eq_lt]
    rintro (h1 | ⟨h1, r1⟩) (h2 | ⟨h2, r2⟩)
    · exact .inl (hc.trans a b d h1 h2)
    · exact .inl ((hc.eq_iff b d).mp h2 ▸ h1)
    · exact .inl ((hc.eq_iff a b).mp h1 ▸ h2)
    · exact .inr ⟨(hc.eq_iff a b).mp h1 ▸ h2, lexBy_trans hc as bs ds r1 r2⟩

theorem lexBy_lawful {α : Type} {c : α → α → Ordering} (hc : LawfulCmp c) : LawfulCmp (lexBy c) where
  eq_iff := lexBy_eq_iff hc.eq_iff
  swap x y := lexBy_swap hc.swap x y
  trans := lexBy_trans hc

theorem lexCmp_lawful : LawfulCmp lexCmp := lexBy_lawful cmpByte_lawful

def Comp.bytes : Comp → List UInt8
  | .normal b => b
  | _ => []

/-- The derived order of `Component`: by variant, two `Normal`s by their bytes. -/
theorem Comp.cmp_eq (a b : Comp) :
    Comp.cmp a b = (compare a.rank b.rank).then (lexCmp a.bytes b.bytes) := by
  cases a <;> cases b <;> rfl

theorem compCmp_lawful : LawfulCmp Comp.cmp where
  eq_iff a b := by
    rw [Comp.cmp_eq, Ordering.then_eq_eq, Nat.compare_eq_eq, lexCmp_lawful.eq_iff]
    cases a <;> cases b <;> simp [Comp.rank, Comp.bytes]
  swap a b := by
    rw [Comp.cmp_eq, Comp.cmp_eq, Ordering.swap_then, Nat.compare_swap, lexCmp_lawful.swap]
  trans a b d := by
    simp only [Comp.cmp_eq, Ordering.then_eq_lt, Nat.compare_eq_lt, Nat.compare_eq_eq]
    rintro (h1 | ⟨h1, r1⟩) (h2 | ⟨h2, r2⟩)
    · exact .inl (Nat.lt_trans h1 h2)
    · exact .inl (h2 ▸ h1)
    · exact .inl (h1 ▸ h2)
    · exact .inr ⟨h1.trans h2, lexCmp_lawful.trans _ _ _ r1 r2⟩

theorem compsCmp_lawful : LawfulCmp (lexBy Comp.cmp) := lexBy_lawful compCmp_lawful

theorem eqV_refl (v : View) (x : List UInt8) : eqV v x x = true := by
  cases v <;> simp [eqV]

theorem eqV_symm (v : View) (x y : List UInt8) : eqV v x y = eqV v y x := by
  cases v <;> exact decide_eq_decide.mpr ⟨Eq.symm, Eq.symm⟩

theorem eqV_iff_cmpV (v : View) (x y : List UInt8) : eqV v x y = true ↔ cmpV v x y = .eq := by
  cases v <;> simp [eqV, cmpV, lexCmp_lawful.eq_iff, compsCmp_lawful.eq_iff]

theorem eqV_hash (v : View) (x y : List UInt8) (h : eqV v x y = true) :
    hashStreamV v x = hashStreamV v y := by
  cases v <;> simp [eqV] at h <;> simp [hashStreamV, h]

theorem cmpV_swap : ∀ (v : View) (x y : List UInt8), cmpV v y x = (cmpV v x y).swap
  | .path, _, _ => compsCmp_lawful.swap _ _
  | .bytes, x, y | .str, x, y | .osstr, x, y => lexCmp_lawful.swap x y

theorem cmpV_trans : ∀ (v : View) (x y z : List UInt8),
    cmpV v x y = .lt → cmpV v y z = .lt → cmpV v x z = .lt
  | .path, _, _, _ => compsCmp_lawful.trans _ _ _
  | .bytes, x, y, z | .str, x, y, z | .osstr, x, y, z => lexCmp_lawful.trans x y z

theorem cmpV_congr (v : View) (x x' y : List UInt8) (h : eqV v x x' = true) :
    cmpV v x y = cmpV v x' y := by
  cases v <;> simp [eqV] at h <;> simp [cmpV, h]

theorem sameCmp_sound {v w : View} (h : sameCmp v w = true) : eqV v = eqV w ∧ cmpV v = cmpV w := by
  cases v <;> cases w <;> simp [sameCmp] at h <;> exact ⟨rfl, rfl⟩

theorem sameHash_hashStreamV {v w : View} (h : sameHash v w = true) : hashStreamV v = hashStreamV w := by
  cases v <;> cases w <;> simp [sameHash] at h <;> rfl

theorem memcmpIsZero_iff (a b : List UInt8) : memcmpIsZero a b = true ↔ a = b := by
  simp [memcmpIsZero, lexCmp_lawful.eq_iff]

def pickArg (a : Arg) (x y : List UInt8) : List UInt8 :=
  match a with
  | .self => x
  | .other => y

/-- The result of the `eq` method of a `PartialEq` row on `self = x`, `other = y`, as the body
    computes it. `samePtr` is the outcome of a `ptr::eq` shortcut when the body has one. -/
def evalEq (env : Env) (row : CmpRow) (samePtr : Bool) (x y : List UInt8) : Option Bool :=
  match row.body with
  | .helper _ _ _ _ a1 a2 _ _ _ =>
    (viewOf env FUEL row).map fun v => eqV v (pickArg a1 x y) (pickArg a2 x y)
  | .viaAccessor sc _ _ =>
    (viewOf env FUEL row).map fun v =>
      match sc with
      | .none => eqV v x y
      | .ptrEqEncodedBytes => samePtr || eqV v x y
  | .inherentEq | .field0Eq => (viewOf env FUEL row).map fun v => eqV v x y
  | _ => none

/-- The result of `partial_cmp` (unwrapped) / `cmp` of a `PartialOrd`/`Ord` row. -/
def evalCmp (env : Env) (row : CmpRow) (x y : List UInt8) : Option Ordering :=
  match row.body with
  | .helper _ _ _ _ a1 a2 rev _ _ =>
    (viewOf env FUEL row).map fun v =>
      let o := cmpV v (pickArg a1 x y) (pickArg a2 x y)
      if rev then o.swap else o
  | .viaAccessor .none _ _ => (viewOf env FUEL row).map fun v => cmpV v x y
  | _ => none

theorem viewsAgree_some {tr : TraitKind} {g e : Option View} (h : viewsAgree tr g e = true) :
    ∃ v w, g = some v ∧ e = some w ∧ (if tr = .hash then sameHash v w else sameCmp v w) = true :=
  match g, e, h with
  | some v, some w, h => ⟨v, w, rfl, rfl, h⟩

/-- The body computes `self <op> other` through its view: a helper gets the two operands, swapped at
    most, and `reverse` undoes the swap when ordering (`ord`); an ordering takes no shortcut. -/
def Body.straight (ord : Bool) : Body → Prop
  | .helper _ _ _ _ a1 a2 rev _ _ => a1 ≠ a2 ∧ rev = (ord && a1 == .other)
  | .viaAccessor sc _ _ => ord = true → sc = .none
  | .inherentEq | .field0Eq => ord = false
  | .marker | .hashVia _ => False

theorem rowOk_inv {env : Env} {row : CmpRow} (hok : rowOk env row = true) (htr : row.trait ≠ .eq) :
    (∃ v w, viewOf env FUEL row = some v ∧ expectedView row = some w ∧
      (if row.trait = .hash then sameHash v w else sameCmp v w) = true) ∧
    (row.trait ≠ .hash → row.body.straight (row.trait != .partialEq)) := by
  unfold rowOk at hok
  split at hok
  case h_10 => cases hok
  all_goals rename_i ht hb; rw [ht, hb]
  -- one bullet per arm of `rowOk`
  · -- `PartialEq`, helper
    simp only [Bool.and_eq_true] at hok
    obtain ⟨⟨⟨⟨⟨_op, hargs⟩, hrev⟩, _asRefL⟩, _asRefR⟩, hview⟩ := hok
    exact ⟨viewsAgree_some (ht ▸ hview), fun _ => ⟨by simpa using hargs, by simpa using hrev⟩⟩
  · -- `PartialOrd`, helper
    simp only [Bool.and_eq_true] at hok
    obtain ⟨⟨⟨⟨⟨_op, hargs⟩, hrev⟩, _asRefL⟩, _asRefR⟩, hview⟩ := hok
    exact ⟨viewsAgree_some (ht ▸ hview), fun _ => ⟨by simpa using hargs, eq_of_beq hrev⟩⟩
  · -- `PartialEq`, accessor
    obtain ⟨_op, hview⟩ := Bool.and_eq_true_iff.mp hok
    exact ⟨viewsAgree_some (ht ▸ hview), fun _ h => nomatch h⟩
  · exact ⟨viewsAgree_some (ht ▸ hok), fun _ => rfl⟩
  · exact ⟨viewsAgree_some (ht ▸ hok), fun _ => rfl⟩
  · -- `PartialOrd`, accessor
    simp only [Bool.and_eq_true] at hok
    obtain ⟨⟨hsc, _op⟩, hview⟩ := hok
    exact ⟨viewsAgree_some (ht ▸ hview), fun _ _ => of_decide_eq_true hsc⟩
  · -- `Ord`, accessor
    simp only [Bool.and_eq_true] at hok
    obtain ⟨⟨⟨hsc, _op⟩, _same⟩, hview⟩ := hok
    exact ⟨viewsAgree_some (ht ▸ hview), fun _ _ => of_decide_eq_true hsc⟩
  · exact absurd ht htr
  · -- `Hash`
    obtain ⟨_same, hview⟩ := Bool.and_eq_true_iff.mp hok
    exact ⟨viewsAgree_some (ht ▸ hview), fun h => absurd rfl h⟩

theorem eqV_pickArg (v : View) (x y : List UInt8) :
    ∀ {a1 a2 : Arg}, a1 ≠ a2 → eqV v (pickArg a1 x y) (pickArg a2 x y) = eqV v x y
  | .self, .other, _ => rfl
  | .other, .self, _ => eqV_symm v y x

theorem cmpV_pickArg (v : View) (x y : List UInt8) :
    ∀ {a1 a2 : Arg}, a1 ≠ a2 →
      (if (a1 == .other) = true then (cmpV v (pickArg a1 x y) (pickArg a2 x y)).swap
        else cmpV v (pickArg a1 x y) (pickArg a2 x y)) = cmpV v x y
  | .self, .other, _ => rfl
  | .other, .self, _ => (cmpV_swap v y x).symm

theorem evalEq_straight {env : Env} {row : CmpRow} (hs : row.body.straight false) (samePtr : Bool)
    (x y : List UInt8) (hptr : samePtr = true → x = y) :
    evalEq env row samePtr x y = (viewOf env FUEL row).map (eqV · x y) := by
  unfold evalEq
  cases hb : row.body <;> rw [hb] at hs
  case helper => simp only [eqV_pickArg _ x y hs.1]
  case viaAccessor sc _ _ =>
    cases sc
    · rfl
    · cases samePtr
      · rfl
      · simp only [hptr rfl, eqV_refl, Bool.or_true]
  case marker | hashVia => exact hs.elim

theorem evalCmp_straight {env : Env} {row : CmpRow} (hs : row.body.straight true) (x y : List UInt8) :
    evalCmp env row x y = (viewOf env FUEL row).map (cmpV · x y) := by
  unfold evalCmp
  cases hb : row.body <;> rw [hb] at hs
  case helper => simp only [hs.2, Bool.true_and, cmpV_pickArg _ x y hs.1]
  case viaAccessor => rw [hs rfl]
  case inherentEq | field0Eq => cases hs
  case marker | hashVia => exact hs.elim

theorem rowOk_eq_sound (env : Env) (row : CmpRow) (htr : row.trait = .partialEq)
    (hok : rowOk env row = true) (samePtr : Bool) (x y : List UInt8) (hptr : samePtr = true → x = y) :
    ∃ w, expectedView row = some w ∧ evalEq env row samePtr x y = some (eqV w x y) := by
  obtain ⟨⟨v, w, hg, he, hvw⟩, hs⟩ := rowOk_inv hok (by rw [htr]; decide)
  rw [htr] at hvw hs
  exact ⟨w, he, by rw [evalEq_straight (hs (by decide)) samePtr x y hptr, hg, ← (sameCmp_sound hvw).1]; rfl⟩

theorem rowOk_cmp_sound (env : Env) (row : CmpRow) (htr : row.trait = .partialOrd ∨ row.trait = .ord)
    (hok : rowOk env row = true) (x y : List UInt8) :
    ∃ w, expectedView row = some w ∧ evalCmp env row x y = some (cmpV w x y) := by
  have hne : row.trait ≠ .eq ∧ row.trait ≠ .hash ∧ (row.trait != .partialEq) = true := by
    rcases htr with h | h <;> rw [h] <;> decide
  obtain ⟨⟨v, w, hg, he, hvw⟩, hs⟩ := rowOk_inv hok hne.1
  rw [if_neg hne.2.1] at hvw
  have hs := hne.2.2 ▸ hs hne.2.1
  exact ⟨w, he, by rw [evalCmp_straight hs x y, hg, ← (sameCmp_sound hvw).2]; rfl⟩

theorem rowOk_hash_sound (env : Env) (row : CmpRow) (htr : row.trait = .hash)
    (hok : rowOk env row = true) (x : List UInt8) :
    ∃ v, viewOf env FUEL row = some v ∧
      hashStreamV v x = hashStreamV (hashViewOf row.lhs.target) x := by
  obtain ⟨⟨v, w, hg, he, hvw⟩, _⟩ := rowOk_inv hok (by rw [htr]; decide)
  rw [if_pos htr] at hvw
  rw [expectedView, htr] at he
  cases he
  exact ⟨v, hg, by rw [sameHash_hashStreamV hvw]⟩
/-- Through the `Borrow` target, `==`, `cmp` and the hash stream are those of the owner. -/
theorem borrowOk_sound (env : Env) (b : BorrowRow) (hok : borrowOk env b = true) :
    ∃ ve vo vh tv,
      env.ownerView .partialEq b.owner = some ve ∧ env.ownerView .ord b.owner = some vo ∧
      env.ownerView .hash b.owner = some vh ∧ stdView b.target b.target = some tv ∧
      ∀ x y, eqV ve x y = eqV tv x y ∧ cmpV vo x y = cmpV tv x y ∧
        hashStreamV vh x = hashStreamV (hashViewOf b.target) x := by
  unfold borrowOk at hok
  simp only [Bool.and_eq_true] at hok
  obtain ⟨⟨⟨⟨_, h1⟩, _⟩, h3⟩, h4⟩ := hok
  obtain ⟨ve, tv, hg1, he1, hs1⟩ := viewsAgree_some h1
  obtain ⟨vo, tv', hg3, he3, hs3⟩ := viewsAgree_some h3
  obtain ⟨vh, th, hg4, he4, hs4⟩ := viewsAgree_some h4
  rw [he1] at he3
  cases he3
  cases he4
  exact ⟨ve, vo, vh, tv, hg1, hg3, hg4, he1, fun x y =>
    ⟨by rw [(sameCmp_sound hs1).1], by rw [(sameCmp_sound hs3).2], by rw [sameHash_hashStreamV hs4]⟩⟩

/-- The environment with only the rows between two Hip types: the only rows `hipRow` can return, so
    the owner views (and `borrowOk`) can be evaluated on this short table. -/
def Env.hipOnly (env : Env) : Env :=
  { env with table := env.table.filter fun row =>
      match row.lhs, row.rhs with
      | .hip _, .hip _ => true
      | _, _ => false }

theorem hipRow_hipOnly (env : Env) (tr : TraitKind) (l r : HipTy) :
    env.hipOnly.hipRow tr l r = env.hipRow tr l r := by
  unfold Env.hipRow Env.hipOnly
  rw [List.find?_filter]
  congr 1
  funext row
  by_cases h : row.trait = tr ∧ row.lhs = .hip l ∧ row.rhs = .hip r
  · simp [h.1, h.2.1, h.2.2]
  · simp [h]

theorem viewOf_hipOnly (env : Env) : ∀ (fuel : Nat) (row : CmpRow),
    viewOf env.hipOnly fuel row = viewOf env fuel row
  | 0, row => by
    rw [viewOf, viewOf]
    split <;> rfl
  | fuel + 1, row => by
    rw [viewOf, viewOf]
    split
    all_goals try rfl
    split
    · simp only [hipRow_hipOnly, viewOf_hipOnly env fuel]
      rfl
    · rfl

theorem ownerView_hipOnly (env : Env) (tr : TraitKind) (h : HipTy) :
    env.hipOnly.ownerView tr h = env.ownerView tr h := by
  unfold Env.ownerView
  rw [hipRow_hipOnly, funext (viewOf_hipOnly env FUEL)]

theorem borrowOk_hipOnly (env : Env) (b : BorrowRow) : borrowOk env.hipOnly b = borrowOk env b := by
  unfold borrowOk
  simp only [ownerView_hipOnly]
  rfl

/-! # std's `Path::hash` byte loop is a function of `components`

`pathHashLoop` writes the chunks of the pieces of its input (`pathHashLoop_eq_chunks`, by the invariant
`LoopRel`), and these are the bytes of the components (`components_chunks`). -/

theorem DOT_ne_SEP : DOT ≠ SEP := by decide

theorem splitSlash_cons_sep (l : List UInt8) : splitSlash (SEP :: l) = [] :: splitSlash l := by
  simp [splitSlash]

theorem splitSlash_cons : ∀ l, ∃ p ps, splitSlash l = p :: ps
  | [] => ⟨[], [], rfl⟩
  | c :: cs => by
    obtain ⟨p, ps, h⟩ := splitSlash_cons cs
    by_cases hc : c = SEP
    · exact ⟨[], _, by rw [hc, splitSlash_cons_sep]⟩
    · exact ⟨c :: p, ps, by simp [splitSlash, hc, h]⟩

theorem splitSlash_cons_ne {c : UInt8} (h : c ≠ SEP) (l : List UInt8) :
    ∃ p ps, splitSlash l = p :: ps ∧ splitSlash (c :: l) = (c :: p) :: ps := by
  obtain ⟨p, ps, hs⟩ := splitSlash_cons l
  exact ⟨p, ps, hs, by simp [splitSlash, h, hs]⟩

theorem splitSlash_append_sep : ∀ (x y : List UInt8),
    splitSlash (x ++ SEP :: y) = splitSlash x ++ splitSlash y
  | [], y => by simp [splitSlash]
  | c :: x, y => by
    have ih := splitSlash_append_sep x y
    by_cases h : c = SEP
    · rw [h, List.cons_append, splitSlash_cons_sep, splitSlash_cons_sep, ih, List.cons_append]
    · obtain ⟨p, ps, h1, h2⟩ := splitSlash_cons_ne h x
      obtain ⟨p', ps', h1', h2'⟩ := splitSlash_cons_ne h (x ++ SEP :: y)
      rw [ih, h1, List.cons_append, List.cons.injEq] at h1'
      rw [List.cons_append, h2', h2, ← h1'.1, ← h1'.2, List.cons_append]

/-- After a separator: is the next piece exactly `.` (`tail == [b'.']` or `[b'.', sep, ..]`)? -/
def dotNext : List UInt8 → Bool
  | [d] => d = DOT
  | d :: s :: _ => d = DOT && s = SEP
  | _ => false

def chunkOf (cur : List UInt8) : List (List UInt8) := if cur = [] then [] else [cur]

def pieceChunk (p : List UInt8) : Option (List UInt8) :=
  if p = [] ∨ p = [DOT] then none else some p

def chunksAfterSep (l : List UInt8) : List (List UInt8) := (splitSlash l).filterMap pieceChunk

/-- The chunks `Path::hash` writes for an input: the first piece whenever it is non-empty (even when
    it is `.`: a leading `CurDir`), every later piece through `pieceChunk`. -/
def chunks (l : List UInt8) : List (List UInt8) :=
  match splitSlash l with
  | p :: tl => chunkOf p ++ tl.filterMap pieceChunk
  | [] => []

theorem splitSlash_of_no_sep : ∀ {l : List UInt8}, (∀ c ∈ l, c ≠ SEP) → splitSlash l = [l]
  | [], _ => rfl
  | c :: l, h => by
    rw [splitSlash, if_neg (h c List.mem_cons_self),
      splitSlash_of_no_sep fun d hd => h d (List.mem_cons_of_mem _ hd)]

theorem chunks_of_no_sep {cur : List UInt8} (h : ∀ c ∈ cur, c ≠ SEP) : chunks cur = chunkOf cur := by
  rw [chunks, splitSlash_of_no_sep h]
  exact List.append_nil _

theorem chunks_append_sep {cur : List UInt8} (h : ∀ c ∈ cur, c ≠ SEP) (rest : List UInt8) :
    chunks (cur ++ SEP :: rest) = chunkOf cur ++ chunksAfterSep rest := by
  rw [chunks, splitSlash_append_sep, splitSlash_of_no_sep h]
  rfl

theorem dotNext_iff (rest : List UInt8) :
    dotNext rest = true ↔ (splitSlash rest).head? = some [DOT] := by
  match rest with
  | [] => simp [dotNext, splitSlash]
  | [d] =>
    by_cases h : d = SEP
    · subst h; simp [dotNext, splitSlash, Ne.symm DOT_ne_SEP]
    · simp [dotNext, splitSlash, h]
  | d :: s :: r =>
    by_cases h : d = SEP
    · subst h; simp [dotNext, splitSlash_cons_sep, Ne.symm DOT_ne_SEP]
    · obtain ⟨p, ps, h1, h2⟩ := splitSlash_cons_ne h (s :: r)
      rw [h2]
      by_cases hs : s = SEP
      · subst hs
        rw [splitSlash_cons_sep] at h1
        simp only [List.cons.injEq] at h1
        simp [dotNext, ← h1.1]
      · obtain ⟨q, qs, _, h4⟩ := splitSlash_cons_ne hs r
        rw [h4] at h1
        simp only [List.cons.injEq] at h1
        simp [dotNext, ← h1.1, hs]

theorem dotNext_cases {l : List UInt8} (h : dotNext l = true) :
    ∃ r, l = DOT :: r ∧ (r = [] ∨ ∃ r', r = SEP :: r') :=
  match l, h with
  | [d], h => ⟨[], by simpa [dotNext] using h, .inl rfl⟩
  | d :: s :: r, h => by
    have : d = DOT ∧ s = SEP := by simpa [dotNext] using h
    exact ⟨s :: r, by rw [this.1], .inr ⟨r, by rw [this.2]⟩⟩

theorem chunksAfterSep_eq (l : List UInt8) :
    chunksAfterSep l = if dotNext l = true then chunks (l.drop 1) else chunks l := by
  split
  · rename_i h
    obtain ⟨r, rfl, rfl | ⟨r', rfl⟩⟩ := dotNext_cases h
    · decide
    · refine Eq.trans ?_ (chunks_append_sep (cur := []) (fun _ h => nomatch h) r').symm
      simp [chunksAfterSep, splitSlash, DOT_ne_SEP, pieceChunk, chunkOf]
  · rename_i h
    obtain ⟨p, tl, hs⟩ := splitSlash_cons l
    have hp : p ≠ [DOT] := fun e => h ((dotNext_iff l).mpr (by rw [hs, e]; rfl))
    simp only [chunks, chunksAfterSep, hs, List.filterMap_cons, pieceChunk, chunkOf]
    by_cases hp0 : p = []
    · simp [hp0]
    · simp [hp0, hp]

/-- One iteration of the `for i in 0..bytes.len()` loop of `pathHashLoop`. -/
def loopStep (bytes : List UInt8) (st : PathHashState) (i : Nat) : PathHashState :=
  if bytes[i]?.getD 0 = SEP then
    let st := if i > st.componentStart then
        st.emit ((bytes.drop st.componentStart).take (i - st.componentStart)) else st
    let cs := i + 1
    let extra := match bytes.drop cs with
      | [d] => if d = DOT then 1 else 0
      | d :: s :: _ => if d = DOT ∧ s = SEP then 1 else 0
      | _ => 0
    { st with componentStart := cs + extra }
  else st

def loopFinish (bytes : List UInt8) (st : PathHashState) : List UInt8 :=
  let st := if st.componentStart < bytes.length then st.emit (bytes.drop st.componentStart) else st
  st.out ++ le8 st.chunkBits

theorem pathHashLoop_eq_fold (bytes : List UInt8) :
    pathHashLoop bytes =
      loopFinish bytes ((List.range bytes.length).foldl (loopStep bytes) ⟨0, 0, []⟩) := rfl

def render (W : List (List UInt8)) : List UInt8 := W.flatten ++ le8 (chunkBits (W.map List.length))

theorem render_snoc_eq (W : List (List UInt8)) (cur : List UInt8) (X : List (List UInt8)) :
    render ((W ++ [cur]) ++ X) = render (W ++ ([cur] ++ X)) := by
  rw [List.append_assoc]

theorem chunkBits_append (L : List Nat) (l : Nat) :
    chunkBits (L ++ [l]) = rotr2 ((chunkBits L + l) % 2 ^ 64) := by
  unfold chunkBits
  rw [List.foldl_append, List.foldl_cons, List.foldl_nil]

theorem extra_eq (rest : List UInt8) :
    (match rest with
      | [d] => if d = DOT then 1 else 0
      | d :: s :: _ => if d = DOT ∧ s = SEP then 1 else 0
      | _ => 0) = if dotNext rest = true then 1 else 0 := by
  match rest with
  | [] | [d] | d :: s :: r => simp [dotNext]

-- NB: plain `rfl` makes the kernel compare `st` with `st.emit ch` field by field (eta) and loop on
-- `rotr2 (… % 2 ^ 64)`; unfolding first reduces the projection directly.
theorem emit_out (st : PathHashState) (ch : List UInt8) : (st.emit ch).out = st.out ++ ch := by
  unfold PathHashState.emit
  rfl
theorem emit_cs (st : PathHashState) (ch : List UInt8) :
    (st.emit ch).componentStart = st.componentStart := by
  unfold PathHashState.emit
  rfl
theorem emit_cb (st : PathHashState) (ch : List UInt8) :
    (st.emit ch).chunkBits = rotr2 ((st.chunkBits + ch.length) % 2 ^ 64) := by
  unfold PathHashState.emit
  rfl

def Written (st : PathHashState) (W : List (List UInt8)) : Prop :=
  st.out = W.flatten ∧ st.chunkBits = chunkBits (W.map List.length)

theorem Written.render {st : PathHashState} {W : List (List UInt8)} (h : Written st W) :
    st.out ++ le8 st.chunkBits = render W := by
  rw [Views.render, h.1, h.2]

/-- `if <cur is non-empty> { emit(cur) }`, whichever way the test is written. -/
theorem Written.chunk {st : PathHashState} {W : List (List UInt8)} (h : Written st W)
    (cur : List UInt8) {p : Prop} [Decidable p] (hp : p ↔ cur ≠ []) :
    Written (if p then st.emit cur else st) (W ++ chunkOf cur) := by
  unfold chunkOf
  by_cases hc : cur = []
  · rw [if_neg (fun h => hp.mp h hc), if_pos hc, List.append_nil]
    exact h
  · rw [if_pos (hp.mpr hc), if_neg hc]
    exact ⟨by rw [emit_out, h.1, List.flatten_append, List.flatten_singleton],
      by rw [emit_cb, h.2, List.map_append, List.map_singleton, chunkBits_append]⟩

theorem loopStep_other {pre rest : List UInt8} {c : UInt8} (hc : c ≠ SEP) (st : PathHashState) :
    loopStep (pre ++ c :: rest) st pre.length = st := by
  simp [loopStep, hc]

theorem loopStep_sep {pre rest : List UInt8} {st : PathHashState} (hle : st.componentStart ≤ pre.length) :
    loopStep (pre ++ SEP :: rest) st pre.length =
      { (if pre.length > st.componentStart then st.emit (pre.drop st.componentStart) else st) with
        componentStart := pre.length + 1 + if dotNext rest = true then 1 else 0 } := by
  have htake : ((pre ++ SEP :: rest).drop st.componentStart).take (pre.length - st.componentStart)
      = pre.drop st.componentStart := by
    rw [List.drop_append_of_le_length hle, List.take_left' (by rw [List.length_drop])]
  simp [loopStep, extra_eq, htake]

/-- Loop invariant before byte `pre.length`: `W` is written, and no separator has been read since
    `component_start` (which is one past the next byte only when that byte is a `.` to jump over). So
    what remains to be written are the chunks of `bytes[component_start..]`. -/
structure LoopRel (pre rest : List UInt8) (st : PathHashState) (W : List (List UInt8)) : Prop where
  written : Written st W
  le : st.componentStart ≤ pre.length + 1
  nosep : ∀ c ∈ pre.drop st.componentStart, c ≠ SEP
  dot : pre.length < st.componentStart → ∃ r, rest = DOT :: r

theorem drop_ne_nil_iff {l : List UInt8} {n : Nat} : n < l.length ↔ l.drop n ≠ [] := by
  rw [Ne, List.drop_eq_nil_iff, Nat.not_le]

theorem loop_step {pre rest : List UInt8} {c : UInt8} {st : PathHashState} {W : List (List UInt8)}
    (rel : LoopRel pre (c :: rest) st W) :
    ∃ W', LoopRel (pre ++ [c]) rest (loopStep (pre ++ c :: rest) st pre.length) W' ∧
      W ++ chunks ((pre ++ c :: rest).drop st.componentStart) =
        W' ++ chunks ((pre ++ c :: rest).drop (loopStep (pre ++ c :: rest) st pre.length).componentStart) := by
  have hlen : (pre ++ [c]).length = pre.length + 1 := List.length_append
  by_cases hc : c = SEP
  · subst hc
    -- a separator is never the byte to jump over
    have hle : st.componentStart ≤ pre.length := Nat.le_of_not_lt fun h => by
      obtain ⟨r, hr⟩ := rel.dot h
      exact DOT_ne_SEP (List.cons.inj hr).1.symm
    rw [loopStep_sep hle, List.drop_append_of_le_length hle, chunks_append_sep rel.nosep,
      chunksAfterSep_eq, ← List.append_assoc]
    refine ⟨_, ⟨rel.written.chunk _ drop_ne_nil_iff, ?_, ?_, ?_⟩, congrArg _ ?_⟩ <;> dsimp only
    · rw [hlen]
      exact Nat.add_le_add_left (by split <;> decide) _
    · rw [List.drop_of_length_le (hlen ▸ Nat.le_add_right _ _)]
      exact fun _ h => nomatch h
    · rw [hlen]
      cases hd : dotNext rest
      · exact fun h => absurd h (Nat.lt_irrefl _)
      · exact fun _ => (dotNext_cases hd).imp fun _ h => h.1
    · rw [Nat.add_assoc, ← List.drop_drop, List.drop_left, Nat.add_comm, ← List.drop_drop]
      cases dotNext rest <;> rfl
  · rw [loopStep_other hc]
    refine ⟨W, ⟨rel.written, Nat.le_trans rel.le (hlen ▸ Nat.le_succ _), fun d hd => ?_,
      fun h => absurd (hlen ▸ h) (Nat.not_lt.mpr rel.le)⟩, rfl⟩
    rw [List.drop_append] at hd
    rcases List.mem_append.mp hd with h | h
    · exact rel.nosep d h
    · exact List.mem_singleton.mp (List.mem_of_mem_drop h) ▸ hc

theorem loop_inv (bytes : List UInt8) : ∀ (rest pre : List UInt8) (st : PathHashState)
    (W : List (List UInt8)), bytes = pre ++ rest → LoopRel pre rest st W →
    loopFinish bytes ((List.range' pre.length rest.length).foldl (loopStep bytes) st)
      = render (W ++ chunks (bytes.drop st.componentStart))
  | [], pre, st, W, hb, rel => by
    rw [List.append_nil] at hb
    subst hb
    rw [chunks_of_no_sep rel.nosep]
    exact (rel.written.chunk _ drop_ne_nil_iff).render
  | c :: rest, pre, st, W, hb, rel => by
    obtain ⟨W', rel', hW⟩ := loop_step rel
    rw [List.length_cons, List.range'_succ, List.foldl_cons, hb, hW]
    have := loop_inv bytes rest (pre ++ [c]) _ W' (by rw [hb, List.append_assoc]; rfl) (hb ▸ rel')
    rwa [List.length_append, hb] at this

theorem pathHashLoop_eq_chunks (bytes : List UInt8) :
    pathHashLoop bytes = render (chunks bytes) := by
  rw [pathHashLoop_eq_fold, List.range_eq_range']
  exact loop_inv bytes bytes [] ⟨0, 0, []⟩ [] rfl
    ⟨⟨rfl, rfl⟩, Nat.zero_le _, fun _ h => (nomatch h), fun h => (nomatch h)⟩

theorem pieceComp_bind_hashBytes :
    (fun p => (pieceComp p).bind Comp.hashBytes) = pieceChunk := by
  funext p
  unfold pieceComp pieceChunk
  by_cases h0 : p = []
  · simp [h0]
  · by_cases h1 : p = [DOT]
    · simp [h1]
    · by_cases h2 : p = [DOT, DOT] <;> simp [h0, h1, h2, Comp.hashBytes]

theorem components_chunks (bytes : List UInt8) :
    (components bytes).filterMap Comp.hashBytes = chunks bytes := by
  obtain ⟨p, tl, hs⟩ := splitSlash_cons bytes
  -- a rooted path has an empty first piece
  have hroot : bytes.head? = some SEP → p = [] := by
    cases bytes with
    | nil => exact fun h => nomatch h
    | cons c r =>
      intro h
      cases h
      rw [splitSlash_cons_sep] at hs
      exact (List.cons.inj hs).1.symm
  unfold components chunks
  simp only [List.filterMap_append, List.filterMap_filterMap, pieceComp_bind_hashBytes]
  simp only [hs, List.head?_cons, List.filterMap_cons, chunkOf]
  by_cases hr : bytes.head? = some SEP
  · simp [hr, hroot hr, Comp.hashBytes, pieceChunk]
  · by_cases hp : p = [DOT]
    · simp [hr, hp, Comp.hashBytes, pieceChunk]
    · by_cases hp0 : p = [] <;> simp [hr, hp, hp0, pieceChunk]

theorem pathHashLoop_eq (bytes : List UInt8) : pathHashLoop bytes = hashStreamV .path bytes := by
  rw [pathHashLoop_eq_chunks, ← components_chunks]
  rfl

theorem head?_splitSlash_append (x : List UInt8) (ys : List (List UInt8)) :
    (splitSlash x ++ ys).head? = (splitSlash x).head? := by
  obtain ⟨p, ps, hs⟩ := splitSlash_cons x
  rw [hs]
  rfl

theorem head?_append_sep (x y : List UInt8) (z : List UInt8) :
    (x ++ SEP :: y).head? = (x ++ SEP :: z).head? := by
  cases x <;> rfl

/-- `components` is a function of three things: whether the path is rooted, its first piece (a leading
    `.` is kept), and the components the pieces yield (the canonicity laws of `Props/C12` change none of them). -/
theorem components_congr {x y : List UInt8} (hh : x.head? = y.head?)
    (h1 : (splitSlash x).head? = (splitSlash y).head?)
    (hp : (splitSlash x).filterMap pieceComp = (splitSlash y).filterMap pieceComp) :
    components x = components y := by
  unfold components
  simp only [hh, h1, hp]

theorem components_congr_after_sep (x y1 y2 : List UInt8)
    (h : (splitSlash y1).filterMap pieceComp = (splitSlash y2).filterMap pieceComp) :
    components (x ++ SEP :: y1) = components (x ++ SEP :: y2) :=
  components_congr (head?_append_sep x y1 y2)
    (by simp only [splitSlash_append_sep, head?_splitSlash_append])
    (by simp only [splitSlash_append_sep, List.filterMap_append, h])

end HipVerif.Views
