/-
  The std `Vec` specification (`Spec/Vec.lean`) lifted to the operation alphabet of the list models
  (`specStep`, `needs`, `appended`), and the two bridges to it: an `InlineVec` step is `Vec`'s step
  when the fixed capacity suffices and `IV.full` otherwise (`IV.step_eq`); a `ThinVec` step is
  `Vec`'s step or a capacity overflow (`TV.step_sim`), its capacity always one that `layout`
  produced (`TV.Wf`). The layout arithmetic of `ThinVec` is in the middle of the file.
-/
import HipVerif.Model.Vecs
import HipVerif.Spec.Vec

namespace HipVerif.Vecs

open HipVerif.Spec.Vec (Bnd Side)

/-- The `RangeError` that documents why `slice::range` rejects the bounds (first failing
    condition, in the order start-overflow, end-overflow, start > end, end > len). -/
def rangeErrorOf (sb eb : Bnd) (len : Nat) : RangeError :=
  match sb, eb with
  | .excl s, _ => if usizeMax ≤ s then .startOverflows else
      match eb with
      | .incl e => if usizeMax ≤ e then .endOverflows
                   else if s + 1 > e + 1 then .startGreaterThanEnd (s + 1) (e + 1)
                   else .endOutOfBounds (e + 1) len
      | .excl e => if s + 1 > e then .startGreaterThanEnd (s + 1) e else .endOutOfBounds e len
      | .unb => if s + 1 > len then .startGreaterThanEnd (s + 1) len else .endOutOfBounds len len
  | .incl s, .incl e => if usizeMax ≤ e then .endOverflows
                        else if s > e + 1 then .startGreaterThanEnd s (e + 1)
                        else .endOutOfBounds (e + 1) len
  | .incl s, .excl e => if s > e then .startGreaterThanEnd s e else .endOutOfBounds e len
  | .incl s, .unb => if s > len then .startGreaterThanEnd s len else .endOutOfBounds len len
  | .unb, .incl e => if usizeMax ≤ e then .endOverflows else .endOutOfBounds (e + 1) len
  | .unb, .excl e => .endOutOfBounds e len
  | .unb, .unb => .endOutOfBounds len len

/-- One operation on a std `Vec` holding `xs`: outcome and contents afterwards. A `Vec` panic
    leaves the contents unchanged (std checks before it mutates). `try_` operations, which `Vec`
    does not have, succeed exactly when the plain operation does not panic. -/
def specStep (xs : List α) : Op α → Outcome α × List α
  | .push v | .tryPush v => (.ok .unit, Spec.Vec.push xs v)
  | .pop => (.ok (.opt (Spec.Vec.pop xs).1), (Spec.Vec.pop xs).2)
  | .popIf b => (.ok (.opt (Spec.Vec.popIf xs b).1), (Spec.Vec.popIf xs b).2)
  | .insert i v =>
    match Spec.Vec.insert xs i v with
    | some ys => (.ok .unit, ys)
    | none => (.panic .index, xs)
  | .tryInsert i v =>
    match Spec.Vec.insert xs i v with
    | some ys => (.ok .unit, ys)
    | none => (.err .outOfBounds (.elem v), xs)
  | .remove i =>
    match Spec.Vec.remove xs i with
    | some (a, ys) => (.ok (.elem a), ys)
    | none => (.panic .index, xs)
  | .swapRemove i =>
    match Spec.Vec.swapRemove xs i with
    | some (a, ys) => (.ok (.elem a), ys)
    | none => (.panic .index, xs)
  | .truncate n => (.ok .unit, Spec.Vec.truncate xs n)
  | .clear => (.ok .unit, Spec.Vec.clear xs)
  | .resize n v => (.ok .unit, Spec.Vec.resize xs n v)
  | .resizeWith n g => (.ok .unit, Spec.Vec.resizeWith xs n g)
  | .extendFromSlice l | .extendFromSliceCopy l | .extendFromArray l => (.ok .unit, Spec.Vec.extend xs l)
  | .extendFromWithin sb eb | .extendFromWithinCopy sb eb =>
    match Spec.Vec.extendFromWithin xs sb eb with
    | some ys => (.ok .unit, ys)
    | none => (.panic .range, xs)
  | .tryExtendFromWithin sb eb =>
    match Spec.Vec.extendFromWithin xs sb eb with
    | some ys => (.ok .unit, ys)
    | none => (.err (.range (rangeErrorOf sb eb xs.length)) .unit, xs)
  | .extend _ items => (.ok .unit, Spec.Vec.extend xs items)
  | .append other => (.ok (.items (Spec.Vec.append xs other).2), (Spec.Vec.append xs other).1)
  | .constAppend _ other => (.ok (.items (Spec.Vec.constAppend xs other).2), (Spec.Vec.constAppend xs other).1)
  | .spareWrite vals => (.ok .unit, Spec.Vec.spareWrite xs vals)
  | .splitOff n =>
    match Spec.Vec.splitOff xs n with
    | some (a, b) => (.ok (.items b), a)
    | none => (.panic .index, xs)
  | .drain sb eb sc fin =>
    match Spec.Vec.drain xs sb eb sc (fin == .leak) with
    | some (ys, zs) => (.ok (.items ys), zs)
    | none => (.panic .range, xs)
  | .tryDrain sb eb sc fin =>
    match Spec.Vec.drain xs sb eb sc (fin == .leak) with
    | some (ys, zs) => (.ok (.items ys), zs)
    | none => (.err (.range (rangeErrorOf sb eb xs.length)) .unit, xs)
  | .intoIter sc => (.ok (.items (Spec.Vec.intoIter xs sc)), [])
  | .clone => (.ok .unit, Spec.Vec.clone xs)
  | .reserve _ | .reserveExact _ | .shrinkTo _ | .shrinkToFit => (.ok .unit, Spec.Vec.keep xs)
  | .withCapacity _ => (.ok .unit, [])
  | .from _ _ items => (.ok .unit, Spec.Vec.fromItems items)

def specPanics (xs : List α) (op : Op α) : Prop := (specStep xs op).1.isPanic = true

/-- Number of elements the vector must be able to hold for the operation to go through
    (`0` when the operation does not grow the vector or when `Vec` itself rejects it). -/
def needs (xs : List α) : Op α → Nat
  | .push _ | .tryPush _ => xs.length + 1
  | .insert i _ | .tryInsert i _ => if i ≤ xs.length then xs.length + 1 else 0
  | .resize n _ | .resizeWith n _ => n
  | .extendFromSlice l | .extendFromSliceCopy l | .extendFromArray l => xs.length + l.length
  | .extendFromWithin sb eb | .extendFromWithinCopy sb eb | .tryExtendFromWithin sb eb =>
    match Spec.Vec.range sb eb xs.length with
    | some (a, b) => xs.length + (b - a)
    | none => 0
  | .extend _ items => xs.length + items.length
  | .append other | .constAppend _ other => xs.length + other.length
  | .spareWrite vals => xs.length + vals.length
  | .from src hint items => if src = .iter then max hint items.length else items.length
  | _ => 0

/-- The items an operation appends (for the "prefix" statement after a panic). -/
def appended : Op α → List α
  | .push v | .tryPush v | .insert _ v | .tryInsert _ v => [v]
  | .extendFromSlice l | .extendFromSliceCopy l | .extendFromArray l => l
  | .extend _ items => items
  | .append other | .constAppend _ other => other
  | .spareWrite vals => vals
  | .from _ _ items => items
  | _ => []

def Op.isTry : Op α → Bool
  | .tryPush _ | .tryInsert _ _ => true
  | _ => false

theorem insertIdx_eq_take_drop (xs : List α) (i : Nat) (v : α) (h : i ≤ xs.length) :
    xs.insertIdx i v = xs.take i ++ v :: xs.drop i := by
  induction xs generalizing i with
  | nil => cases i <;> simp_all
  | cons x xs ih =>
    cases i with
    | zero => simp
    | succ i => simp at h; simp [List.insertIdx_succ_cons, ih i h]

theorem getLast?_eq_getElem?' (xs : List α) : xs.getLast? = xs[xs.length - 1]? :=
  List.getLast?_eq_getElem?

theorem checkedAdd_one (s : Nat) :
    checkedAdd s 1 = if usizeMax ≤ s then none else some (s + 1) := by
  unfold checkedAdd; split <;> split <;> first | rfl | omega

theorem rangeCheck_eq_stdCheck (s e len : Nat) :
    (if s > e then .error (.startGreaterThanEnd s e) else if e > len then .error (.endOutOfBounds e len)
      else .ok (s, e) : Except RangeError (Nat × Nat)) =
    match (if s ≤ e ∧ e ≤ len then some (s, e) else none : Option (Nat × Nat)) with
    | some p => .ok p
    | none => .error (if s > e then .startGreaterThanEnd s e else .endOutOfBounds e len) := by
  by_cases h1 : s > e
  · rw [if_pos h1, if_neg (by omega), if_pos h1]
  · by_cases h2 : e > len
    · rw [if_neg h1, if_pos h2, if_neg (by omega), if_neg h1]
    · rw [if_neg h1, if_neg h2, if_pos (by omega)]

/-- `rangeMono` (hipstr) and `slice::range` (std) accept the same bounds with the same result;
    on rejection the error is the documented one. Row by row: the overflow tests first, then
    `rangeCheck_eq_stdCheck`. -/
theorem rangeMono_spec (sb eb : Bnd) (len : Nat) :
    rangeMono sb eb len =
      match Spec.Vec.range sb eb len with
      | some p => .ok p
      | none => .error (rangeErrorOf sb eb len) := by
  have hu : HipVerif.Spec.Vec.usizeMax = usizeMax := rfl
  rcases sb with s | s | _ <;> rcases eb with e | e | _ <;>
    simp only [rangeMono, Spec.Vec.range, rangeErrorOf, checkedAdd_one, hu]
  case incl.incl => by_cases he : usizeMax ≤ e <;> simp only [he, ↓reduceIte, rangeCheck_eq_stdCheck]
  case incl.excl => exact rangeCheck_eq_stdCheck ..
  case incl.unb => exact rangeCheck_eq_stdCheck ..
  case excl.incl =>
    by_cases hs : usizeMax ≤ s <;> by_cases he : usizeMax ≤ e <;> simp only [hs, he, ↓reduceIte, rangeCheck_eq_stdCheck]
  case excl.excl => by_cases hs : usizeMax ≤ s <;> simp only [hs, ↓reduceIte, rangeCheck_eq_stdCheck]
  case excl.unb => by_cases hs : usizeMax ≤ s <;> simp only [hs, ↓reduceIte, rangeCheck_eq_stdCheck]
  case unb.incl =>
    by_cases he : usizeMax ≤ e <;> simp only [he, ↓reduceIte, rangeCheck_eq_stdCheck] <;>
      simp only [Nat.not_lt_zero, ↓reduceIte]
  case unb.excl => rw [rangeCheck_eq_stdCheck]; simp only [Nat.not_lt_zero, ↓reduceIte]
  case unb.unb => rw [rangeCheck_eq_stdCheck]; simp only [Nat.not_lt_zero, ↓reduceIte]

theorem range_bounds {sb eb : Bnd} {len a b : Nat} (h : Spec.Vec.range sb eb len = some (a, b)) :
    a ≤ b ∧ b ≤ len := by
  simp only [Spec.Vec.range] at h
  split at h
  · split at h
    · cases h; assumption
    · cases h
  · cases h

theorem drop_take_cons (buf : List α) (lo hi : Nat) (h : lo < hi) (hh : hi ≤ buf.length) :
    (buf.drop lo).take (hi - lo) = buf[lo] :: (buf.drop (lo + 1)).take (hi - (lo + 1)) := by
  have hlo : lo < buf.length := by omega
  rw [List.drop_eq_getElem_cons hlo]
  have : hi - lo = (hi - (lo + 1)) + 1 := by omega
  rw [this, List.take_succ_cons]

theorem drop_take_getLast (buf : List α) (lo hi : Nat) (h : lo < hi) (hh : hi ≤ buf.length) :
    ((buf.drop lo).take (hi - lo)).getLast? = buf[hi - 1]? := by
  rw [List.getLast?_eq_getElem?]
  simp only [List.length_take, List.length_drop]
  have : min (hi - lo) (buf.length - lo) - 1 = hi - lo - 1 := by omega
  rw [this, List.getElem?_take]
  have : hi - lo - 1 < hi - lo := by omega
  simp [this]
  congr 1; omega

theorem drop_take_dropLast (buf : List α) (lo hi : Nat) (h : lo < hi) (hh : hi ≤ buf.length) :
    ((buf.drop lo).take (hi - lo)).dropLast = (buf.drop lo).take (hi - 1 - lo) := by
  rw [List.dropLast_eq_take, List.take_take]
  simp only [List.length_take, List.length_drop]
  congr 1; omega

theorem walk_eq_consume (buf : List α) (sc : List Side) (lo hi : Nat) (hh : hi ≤ buf.length) :
    walk buf sc lo hi = Spec.Vec.consume sc ((buf.drop lo).take (hi - lo)) := by
  induction sc generalizing lo hi with
  | nil => simp [walk, Spec.Vec.consume]
  | cons c r ih =>
    cases c with
    | front =>
      by_cases h : lo < hi
      · have hlo : lo < buf.length := by omega
        rw [drop_take_cons buf lo hi h hh]
        simp [walk, Spec.Vec.consume, h, List.getElem?_eq_getElem hlo, ih (lo + 1) hi hh]
      · have : hi - lo = 0 := by omega
        simp [walk, Spec.Vec.consume, h, this, ih lo hi hh]
    | back =>
      by_cases h : lo < hi
      · have hhi : hi - 1 < buf.length := by omega
        have e1 := drop_take_getLast buf lo hi h hh
        have e2 := drop_take_dropLast buf lo hi h hh
        rw [List.getElem?_eq_getElem hhi] at e1
        simp only [walk, Spec.Vec.consume, h, if_true, List.getElem?_eq_getElem hhi, e1, e2]
        rw [ih lo (hi - 1) (by omega)]
      · have : hi - lo = 0 := by omega
        simp [walk, Spec.Vec.consume, h, this, ih lo hi hh]

theorem swap_last (xs : List α) (i : Nat) (h : i < xs.length) :
    ∃ a l, xs[i]? = some a ∧ xs.getLast? = some l ∧
      (swap xs i (xs.length - 1))[xs.length - 1]? = some a ∧
      (swap xs i (xs.length - 1)).take (xs.length - 1) = (xs.set i l).dropLast := by
  have hl : xs.length - 1 < xs.length := by omega
  refine ⟨xs[i], xs[xs.length - 1], List.getElem?_eq_getElem h, ?_, ?_, ?_⟩
  · rw [List.getLast?_eq_getElem?, List.getElem?_eq_getElem hl]
  · simp only [swap, List.getElem?_eq_getElem h, List.getElem?_eq_getElem hl]
    rw [List.getElem?_set_self (by simpa using hl)]
  · simp only [swap, List.getElem?_eq_getElem h, List.getElem?_eq_getElem hl]
    rw [List.dropLast_eq_take, List.length_set, List.take_set_of_le (Nat.le_refl _)]

theorem IV.pop_spec (s : IV α) :
    s.pop = (.ok (.opt (Spec.Vec.pop s.xs).1), ⟨s.cap, (Spec.Vec.pop s.xs).2⟩) := by
  unfold IV.pop Spec.Vec.pop
  by_cases h : s.xs.length = 0
  · have : s.xs = [] := List.eq_nil_of_length_eq_zero h
    cases s; simp_all
  · have hl : s.xs.length - 1 < s.xs.length := by omega
    simp [h, List.getLast?_eq_getElem?, List.getElem?_eq_getElem hl, List.dropLast_eq_take]

theorem IV.extend_spec (s : IV α) (items : List α) (h : s.xs.length + items.length ≤ s.cap) :
    s.extend items = (.ok .unit, ⟨s.cap, s.xs ++ items⟩) := by
  induction items generalizing s with
  | nil => cases s; simp [IV.extend]
  | cons v r ih =>
    simp only [List.length_cons] at h
    have hlt : s.xs.length < s.cap := by omega
    simp only [IV.extend, IV.push, IV.tryPush, hlt, if_true]
    rw [ih]
    · simp
    · simp; omega

theorem IV.extend_exceed (s : IV α) (items : List α) (hw : s.xs.length ≤ s.cap)
    (h : s.xs.length + items.length > s.cap) :
    s.extend items = (.panic .capacity, ⟨s.cap, s.xs ++ items.take (s.cap - s.xs.length)⟩) := by
  induction items generalizing s with
  | nil => simp at h; omega
  | cons v r ih =>
    simp only [List.length_cons] at h
    by_cases hlt : s.xs.length < s.cap
    · simp only [IV.extend, IV.push, IV.tryPush, hlt, if_true]
      rw [ih]
      · have : s.cap - s.xs.length = (s.cap - (s.xs.length + 1)) + 1 := by omega
        simp [this]
      · simp; omega
      · simp; omega
    · have : s.cap - s.xs.length = 0 := by omega
      simp only [IV.extend, IV.push, IV.tryPush, hlt, if_false, this]
      cases s; simp

theorem IV.truncate_eq (s : IV α) (n : Nat) : s.truncate n = (.ok .unit, ⟨s.cap, s.xs.take n⟩) := by
  simp only [IV.truncate]
  split
  · rfl
  · rw [List.take_of_length_le (by omega)]

theorem IV.extendFromWithin_eq (s : IV α) (sb eb : Bnd) :
    s.extendFromWithin sb eb =
      match Spec.Vec.range sb eb s.xs.length with
      | none => (.panic .range, s)
      | some (a, b) =>
        if s.xs.length + (b - a) ≤ s.cap then (.ok .unit, ⟨s.cap, s.xs ++ (s.xs.drop a).take (b - a)⟩)
        else (.panic .capacity, s) := by
  unfold IV.extendFromWithin
  rw [rangeMono_spec]
  cases Spec.Vec.range sb eb s.xs.length <;> rfl

theorem IV.step_spec (s : IV α) (op : Op α) (hw : s.xs.length ≤ s.cap) (hs : op.forIV = true)
    (hn : needs s.xs op ≤ s.cap) :
    s.step op = ((specStep s.xs op).1, ⟨s.cap, (specStep s.xs op).2⟩) := by
  cases op
  case push v | tryPush v =>
    have : s.xs.length < s.cap := by simp only [needs] at hn; omega
    simp [IV.step, IV.push, IV.tryPush, specStep, Spec.Vec.push, this]
  case pop => simp [IV.step, specStep, IV.pop_spec]
  case popIf b =>
    simp only [IV.step, specStep, IV.popIf, Spec.Vec.popIf, IV.pop_spec, Spec.Vec.pop]
    cases h : s.xs.getLast? with
    | none => rw [if_pos (by simp [List.getLast?_eq_none_iff.mp h])]
    | some l =>
      rw [if_neg (by intro h0; simp [List.eq_nil_of_length_eq_zero h0] at h)]
      cases b <;> simp
  case insert i v | tryInsert i v =>
    simp only [needs] at hn
    simp only [IV.step, specStep, IV.insert, IV.tryInsert, Spec.Vec.insert]
    by_cases h : i ≤ s.xs.length
    · rw [if_pos h] at hn
      have h1 : ¬ i > s.xs.length := by omega
      have h2 : ¬ s.xs.length = s.cap := by omega
      simp [h, h1, h2, insertIdx_eq_take_drop _ _ _ h]
    · have h1 : i > s.xs.length := by omega
      simp [h, h1]
  case remove i =>
    simp only [IV.step, specStep, IV.remove, Spec.Vec.remove]
    by_cases h : i < s.xs.length
    · simp [h, List.eraseIdx_eq_take_drop_succ]
    · simp [h]
  case swapRemove i =>
    simp only [IV.step, specStep, IV.swapRemove, Spec.Vec.swapRemove]
    by_cases h : i < s.xs.length
    · obtain ⟨a, l, h1, h2, h3, h4⟩ := swap_last s.xs i h
      have h5 : s.xs[i] = a := by simpa [List.getElem?_eq_getElem h] using h1
      simp [h, h2, h3, h4, h5]
    · simp [h]
  case truncate n => simp [IV.step, specStep, IV.truncate_eq, Spec.Vec.truncate]
  case clear => simp [IV.step, specStep, IV.clear, IV.truncate_eq, Spec.Vec.clear]
  case resize n v | resizeWith n g =>
    simp only [needs] at hn
    simp only [IV.step, specStep, IV.resize, IV.resizeWith, IV.truncate_eq, Spec.Vec.resize, Spec.Vec.resizeWith]
    by_cases h : n ≤ s.xs.length
    · simp [h, Nat.not_lt.mpr h]
    · simp [h, Nat.lt_of_not_le h, hn, List.map_const']
  case extendFromSlice l | extendFromSliceCopy l | extendFromArray l | spareWrite l | append l =>
    exact if_pos hn
  case constAppend _ l =>
    simp only [IV.step, IV.constAppend, if_pos (show s.xs.length + l.length ≤ s.cap from hn)]; rfl
  case extendFromWithin sb eb | extendFromWithinCopy sb eb =>
    simp only [needs] at hn
    simp only [IV.step, specStep, IV.extendFromWithin_eq, Spec.Vec.extendFromWithin]
    cases hr : Spec.Vec.range sb eb s.xs.length with
    | none => rfl
    | some p => rw [hr] at hn; simp [hn]
  case extend hint items =>
    simp only [needs] at hn
    simp [IV.step, specStep, Spec.Vec.extend, IV.extend_spec s items hn]
  case splitOff n =>
    simp only [IV.step, specStep, IV.splitOff, Spec.Vec.splitOff]
    split <;> rfl
  case drain sb eb sc fin =>
    simp only [IV.step, specStep, IV.drain, Spec.Vec.drain, rangeMono_spec]
    cases hr : Spec.Vec.range sb eb s.xs.length with
    | none => rfl
    | some p => cases fin <;> simp [walk_eq_consume _ _ _ _ (range_bounds hr).2]
  case intoIter sc =>
    simp [IV.step, specStep, IV.intoIter, Spec.Vec.intoIter, IV.new, walk_eq_consume _ _ _ _ (Nat.le_refl _)]
  case clone =>
    simp [IV.step, specStep, IV.clone, Spec.Vec.clone, IV.new, IV.extendFromSlice, hw]
  case «from» src hint items =>
    simp only [needs] at hn
    cases src <;> simp at hn <;>
      simp [IV.step, specStep, IV.from_, Spec.Vec.fromItems, IV.new, IV.extendFromSlice, hn]
    have h2 := IV.extend_spec (IV.new s.cap) items (by simp [IV.new]; omega)
    simp [IV.new] at h2
    have : hint ≤ s.cap := by omega
    simp [h2, this]
  all_goals exact absurd hs Bool.false_ne_true

/-- What a growing operation does on an `InlineVec` too small for it: `try_` operations hand the
    value back (`Full`); `Extend::extend` pushes what fits, then panics; every other operation
    checks first and panics with nothing written. -/
def IV.full (s : IV α) : Op α → Outcome α × IV α
  | .tryPush v | .tryInsert _ v => (.err .full (.elem v), s)
  | .extend _ items => (.panic .capacity, ⟨s.cap, s.xs ++ items.take (s.cap - s.xs.length)⟩)
  | _ => (.panic .capacity, s)


theorem IV.full_cases (s : IV α) (op : Op α) (hw : s.xs.length ≤ s.cap) :
    (op.isTry = true ∧ ∃ v, appended op = [v] ∧ s.full op = (.err .full (.elem v), s)) ∨
    (op.isTry = false ∧ (s.full op).1 = .panic .capacity ∧
      ∃ pre, pre <+: appended op ∧ (s.full op).2 = ⟨s.cap, s.xs ++ pre⟩ ∧ (s.xs ++ pre).length ≤ s.cap) := by
  cases op
  case tryPush v | tryInsert _ v => exact .inl ⟨rfl, v, rfl, rfl⟩
  case extend _ items => exact .inr ⟨rfl, rfl, _, List.take_prefix _ _, rfl, by simp; omega⟩
  all_goals
    exact .inr ⟨rfl, rfl, [], List.nil_prefix, (congrArg (IV.mk s.cap) (List.append_nil _)).symm,
      (List.append_nil _).symm ▸ hw⟩

theorem IV.step_full (s : IV α) (op : Op α) (hw : s.xs.length ≤ s.cap) (hs : op.forIV = true)
    (hn : s.cap < needs s.xs op) : s.step op = s.full op := by
  cases op
  case push v | tryPush v =>
    have : ¬ s.xs.length < s.cap := by simp only [needs] at hn; omega
    simp [IV.step, IV.push, IV.tryPush, IV.full, this]
  case insert i v | tryInsert i v =>
    simp only [needs] at hn
    split at hn
    · have h2 : s.xs.length = s.cap := by omega
      have h3 : ¬ s.cap < i := by omega
      simp [IV.step, IV.insert, IV.tryInsert, IV.full, h2, h3]
    · omega
  case resize n v | resizeWith n g =>
    simp only [needs] at hn
    have h1 : n > s.xs.length := by omega
    have h2 : ¬ n ≤ s.cap := by omega
    simp [IV.step, IV.resize, IV.resizeWith, IV.full, h1, h2]
  case extendFromSlice l | extendFromSliceCopy l | extendFromArray l | spareWrite l | append l =>
    exact if_neg (Nat.not_le.mpr hn)
  case constAppend _ l =>
    simp only [IV.step, IV.constAppend, if_neg (show ¬ s.xs.length + l.length ≤ s.cap from Nat.not_le.mpr hn)]; rfl
  case extendFromWithin sb eb | extendFromWithinCopy sb eb =>
    simp only [needs] at hn
    simp only [IV.step, IV.extendFromWithin_eq, IV.full]
    cases hr : Spec.Vec.range sb eb s.xs.length with
    | none => simp [hr] at hn
    | some p => rw [hr] at hn; exact if_neg (Nat.not_le.mpr hn)
  case extend hint items =>
    simp only [needs] at hn
    simp only [IV.step, IV.extend_exceed s items hw hn, IV.full]
  case «from» src hint items =>
    simp only [needs] at hn
    simp only [IV.step, IV.from_, IV.full]
    cases src <;> simp at hn <;>
      (try (have h2 : ¬ items.length ≤ s.cap := by omega)) <;>
      (try simp [IV.new, IV.extendFromSlice, h2])
    by_cases hh : hint ≤ s.cap
    · have h4 := IV.extend_exceed (IV.new s.cap) items (by simp [IV.new]) (by simp [IV.new]; omega)
      simp [IV.new] at h4
      simp [IV.new, hh, h4]
    · simp [hh]
  case tryExtendFromWithin sb eb => exact absurd hs Bool.false_ne_true
  all_goals exact absurd hn (Nat.not_lt_zero _)

theorem IV.step_eq (s : IV α) (op : Op α) (hw : s.xs.length ≤ s.cap) (hs : op.forIV = true) :
    s.step op =
      if needs s.xs op ≤ s.cap then ((specStep s.xs op).1, ⟨s.cap, (specStep s.xs op).2⟩)
      else s.full op := by
  split
  · exact IV.step_spec s op hw hs ‹_›
  · exact IV.step_full s op hw hs (by omega)

/-- One `Vec` step, classified. Refused: nothing is asked for, the contents stay, and the outcome is
    an index/range panic or the error of a `try_` variant. Accepted: `ok`, and the vector ends up no
    longer than `max |xs| needs`. -/
theorem spec_cases (xs : List α) (op : Op α) :
    (needs xs op = 0 ∧ (specStep xs op).2 = xs ∧
      ((∃ c, (c = .index ∨ c = .range) ∧ (specStep xs op).1 = .panic c) ∨
        ∃ r v, (specStep xs op).1 = .err r v)) ∨
    ((∃ v, (specStep xs op).1 = .ok v) ∧ (specStep xs op).2.length ≤ max xs.length (needs xs op)) := by
  cases op
  case insert i v | tryInsert i v =>
    simp only [specStep, Spec.Vec.insert, needs]
    split
    · exact .inr ⟨⟨_, rfl⟩, by simp [List.length_insertIdx, *]⟩
    · exact .inl ⟨rfl, rfl, by simp⟩
  case remove i =>
    simp only [specStep, Spec.Vec.remove]
    cases h : xs[i]? with
    | none => exact .inl ⟨rfl, rfl, .inl ⟨_, .inl rfl, rfl⟩⟩
    | some a => exact .inr ⟨⟨_, rfl⟩, by simp [List.length_eraseIdx]; split <;> omega⟩
  case swapRemove i =>
    simp only [specStep, Spec.Vec.swapRemove]
    cases xs[i]? with
    | none => exact .inl ⟨rfl, rfl, .inl ⟨_, .inl rfl, rfl⟩⟩
    | some a =>
      cases xs.getLast? with
      | none => exact .inl ⟨rfl, rfl, .inl ⟨_, .inl rfl, rfl⟩⟩
      | some l => exact .inr ⟨⟨_, rfl⟩, by simp [needs]⟩
  case extendFromWithin sb eb | extendFromWithinCopy sb eb | tryExtendFromWithin sb eb =>
    simp only [specStep, Spec.Vec.extendFromWithin, needs]
    cases Spec.Vec.range sb eb xs.length with
    | none => exact .inl ⟨rfl, rfl, by simp⟩
    | some p =>
      exact .inr ⟨⟨_, rfl⟩, by simp only [List.length_append, List.length_take, List.length_drop]; omega⟩
  case splitOff n =>
    simp only [specStep, Spec.Vec.splitOff]
    by_cases h : n ≤ xs.length
    · rw [if_pos h]; exact .inr ⟨⟨_, rfl⟩, by simp [needs]; omega⟩
    · rw [if_neg h]; exact .inl ⟨rfl, rfl, .inl ⟨_, .inl rfl, rfl⟩⟩
  case drain sb eb sc fin | tryDrain sb eb sc fin =>
    simp only [specStep, Spec.Vec.drain]
    cases hr : Spec.Vec.range sb eb xs.length with
    | none => exact .inl ⟨rfl, rfl, by simp⟩
    | some p =>
      have := range_bounds hr
      refine .inr ⟨⟨_, rfl⟩, ?_⟩
      dsimp only
      split <;> simp only [List.length_append, List.length_take, List.length_drop, needs] <;> omega
  case popIf b =>
    refine .inr ⟨⟨_, rfl⟩, ?_⟩
    simp only [specStep, Spec.Vec.popIf, needs]
    split <;> (try split) <;> simp
  case resize n v | resizeWith n g =>
    refine .inr ⟨⟨_, rfl⟩, ?_⟩
    simp only [specStep, Spec.Vec.resize, Spec.Vec.resizeWith, needs]
    split <;> simp <;> omega
  case «from» src hint items =>
    refine .inr ⟨⟨_, rfl⟩, ?_⟩
    simp only [specStep, Spec.Vec.fromItems, needs]
    split <;> omega
  case push l | tryPush l | extendFromSlice l | extendFromSliceCopy l | extendFromArray l | extend _ l
      | append l | constAppend _ l | spareWrite l =>
    refine .inr ⟨⟨_, rfl⟩, ?_⟩
    show (xs ++ _).length ≤ max _ (_ + _)
    rw [List.length_append]; exact Nat.le_max_right ..
  case clone | reserve _ | reserveExact _ | shrinkTo _ | shrinkToFit => exact .inr ⟨⟨_, rfl⟩, Nat.le_max_left ..⟩
  case clear | withCapacity _ | intoIter _ => exact .inr ⟨⟨_, rfl⟩, Nat.zero_le _⟩
  case pop => exact .inr ⟨⟨_, rfl⟩, by simp [specStep, Spec.Vec.pop]; omega⟩
  case truncate n => exact .inr ⟨⟨_, rfl⟩, by simp [specStep, Spec.Vec.truncate]; omega⟩

theorem spec_length_le (xs : List α) (op : Op α) :
    (specStep xs op).2.length ≤ max xs.length (needs xs op) := by
  rcases spec_cases xs op with ⟨_, h, _⟩ | ⟨_, h⟩
  · rw [h]; exact Nat.le_max_left ..
  · exact h

theorem spec_ok_of_needs (xs : List α) (op : Op α) (h : 0 < needs xs op) :
    ∃ v, (specStep xs op).1 = .ok v := by
  rcases spec_cases xs op with ⟨h0, _⟩ | ⟨hv, _⟩
  · omega
  · exact hv

theorem spec_panic (xs : List α) (op : Op α) (c : PanicClass) (h : (specStep xs op).1 = .panic c) :
    (c = .index ∨ c = .range) ∧ (specStep xs op).2 = xs := by
  rcases spec_cases xs op with ⟨_, h2, ⟨c', hc, h1⟩ | ⟨r, v, h1⟩⟩ | ⟨⟨v, h1⟩, _⟩ <;> rw [h1] at h <;> cases h
  exact ⟨hc, h2⟩

theorem IV.step_unsupported (s : IV α) (op : Op α) (hs : op.forIV = false) :
    s.step op = (unsupported, s) := by
  cases op <;> simp [Op.forIV] at hs <;> rfl

/-- The invariant of an `InlineVec` (`len ≤ CAP`, `CAP` fixed) survives every operation,
    panicking or not. -/
theorem IV.step_wf (s : IV α) (op : Op α) (hw : s.xs.length ≤ s.cap) :
    (s.step op).2.cap = s.cap ∧ (s.step op).2.xs.length ≤ s.cap := by
  by_cases hs : op.forIV = true
  · rw [IV.step_eq s op hw hs]
    split
    · exact ⟨rfl, Nat.le_trans (spec_length_le s.xs op) (Nat.max_le.mpr ⟨hw, ‹_›⟩)⟩
    · rcases s.full_cases op hw with ⟨_, v, _, h⟩ | ⟨_, _, pre, _, h, hl⟩
      · rw [h]; exact ⟨rfl, hw⟩
      · rw [h]; exact ⟨rfl, hl⟩
  · rw [IV.step_unsupported s op (by simpa using hs)]
    exact ⟨rfl, hw⟩

theorem IV.run_wf (s : IV α) (ops : List (Op α)) (hw : s.xs.length ≤ s.cap) :
    (s.run ops).2.cap = s.cap ∧ (s.run ops).2.xs.length ≤ s.cap := by
  induction ops generalizing s with
  | nil => exact ⟨rfl, hw⟩
  | cons op rest ih =>
    have h1 := IV.step_wf s op hw
    have h2 := ih (s.step op).2 (by rw [h1.1]; exact h1.2)
    simp only [IV.run]
    rw [h1.1] at h2
    exact h2

theorem roundUp_mod (n a : Nat) : roundUp n a % a = 0 := by
  unfold roundUp; exact Nat.mul_mod_left _ _

theorem roundUp_ge (n a : Nat) (ha : 0 < a) : n ≤ roundUp n a := by
  unfold roundUp
  have h1 := Nat.div_add_mod (n + a - 1) a
  have h2 := Nat.mod_lt (n + a - 1) ha
  rw [Nat.mul_comm] at h1
  omega

theorem roundUp_lt (n a : Nat) (ha : 0 < a) : roundUp n a < n + a := by
  unfold roundUp
  have h1 := Nat.div_add_mod (n + a - 1) a
  rw [Nat.mul_comm] at h1
  omega

theorem roundUp_unique (n a m : Nat) (ha : 0 < a) (hm : m % a = 0) (h1 : n ≤ m) (h2 : m < n + a) :
    roundUp n a = m := by
  unfold roundUp
  have hk : m = m / a * a := by
    have := Nat.div_add_mod m a
    rw [Nat.mul_comm] at this; omega
  have : (n + a - 1) / a = m / a := by
    apply Nat.div_eq_of_lt_le
    · rw [← hk]; omega
    · rw [Nat.add_mul, ← hk]; omega
  rw [this, ← hk]

theorem mult_gap (s b a : Nat) (hs : s % a = 0) (hb : b % a = 0) (h : s < b) :
    s + a ≤ b := by
  have e1 := Nat.div_add_mod s a
  have e2 := Nat.div_add_mod b a
  rw [hs] at e1; rw [hb] at e2
  have hlt : s / a < b / a := by
    apply Nat.lt_of_mul_lt_mul_left (a := a); omega
  have : a * (s / a + 1) ≤ a * (b / a) := Nat.mul_le_mul_left a hlt
  rw [Nat.mul_add] at this
  omega

/-- Alignments are powers of two (at most `2^63`), as for every Rust type. -/
structure TVParams.Ok (p : TVParams) : Prop where
  alT : ∃ k, k ≤ 63 ∧ p.alT = 2 ^ k
  alP : ∃ k, k ≤ 63 ∧ p.alP = 2 ^ k

/-- Alignment of the whole allocation: `max(align_of::<Header>(), align_of::<T>())`. -/
def layoutAlign (p : TVParams) : Nat := max (hdrAlign p) p.alT

theorem max_pow2 (i j : Nat) : max (2 ^ i) (2 ^ j) = 2 ^ (max i j) := by
  by_cases h : i ≤ j
  · have := Nat.pow_le_pow_right (by decide : 0 < 2) h
    rw [Nat.max_eq_right this, Nat.max_eq_right h]
  · have h' : j ≤ i := by omega
    have := Nat.pow_le_pow_right (by decide : 0 < 2) h'
    rw [Nat.max_eq_left this, Nat.max_eq_left h']

theorem layoutAlign_ok (p : TVParams) (hp : p.Ok) :
    0 < layoutAlign p ∧ 2 ^ 63 % layoutAlign p = 0 ∧ p.alT ≤ layoutAlign p ∧ 0 < p.alT := by
  obtain ⟨k, hk, ek⟩ := hp.alT
  obtain ⟨j, hj, ej⟩ := hp.alP
  have e : layoutAlign p = 2 ^ (max (max j 3) k) := by
    unfold layoutAlign hdrAlign
    rw [ek, ej, show (8 : Nat) = 2 ^ 3 from rfl, max_pow2, max_pow2]
  have hm : max (max j 3) k ≤ 63 := by omega
  refine ⟨?_, ?_, ?_, ?_⟩
  · rw [e]; exact Nat.pow_pos (by decide)
  · rw [e]; exact Nat.mod_eq_zero_of_dvd (Nat.pow_dvd_pow 2 hm)
  · unfold layoutAlign; exact Nat.le_max_right _ _
  · rw [ek]; exact Nat.pow_pos (by decide)

theorem layout_some {p : TVParams} {n : Nat} {L : Layout} {off c : Nat}
    (h : layout p n = some (L, off, c)) :
    p.szT * n ≤ 2 ^ 63 - p.alT ∧ off = dataOffset p ∧ off + p.szT * n ≤ 2 ^ 63 - layoutAlign p ∧
    L = ⟨roundUp (off + p.szT * n) (layoutAlign p), layoutAlign p⟩ ∧
    c = if p.szT = 0 then usizeMax else (L.size - off) / p.szT := by
  unfold layout at h
  simp only [isizeMax, layoutAlign] at *
  by_cases c1 : p.szT * n > 2 ^ 63 - 1 + 1 - p.alT
  · simp [c1] at h
  · by_cases c2 : dataOffset p + p.szT * n > 2 ^ 63 - 1 + 1 - max (hdrAlign p) p.alT
    · simp [c1, c2] at h
    · simp only [c1, c2, if_false, Option.some.injEq, Prod.mk.injEq] at h
      obtain ⟨h1, h2, h3⟩ := h
      subst h1 h2 h3
      refine ⟨by omega, rfl, by omega, rfl, rfl⟩

theorem layout_of {p : TVParams} {n : Nat} (h2 : dataOffset p + p.szT * n ≤ 2 ^ 63 - layoutAlign p) :
    layout p n = some (⟨roundUp (dataOffset p + p.szT * n) (layoutAlign p), layoutAlign p⟩,
      dataOffset p,
      if p.szT = 0 then usizeMax
      else (roundUp (dataOffset p + p.szT * n) (layoutAlign p) - dataOffset p) / p.szT) := by
  unfold layout
  simp only [isizeMax, layoutAlign] at *
  have c1 : ¬ p.szT * n > 2 ^ 63 - 1 + 1 - p.alT := by omega
  have c2 : ¬ dataOffset p + p.szT * n > 2 ^ 63 - 1 + 1 - max (hdrAlign p) p.alT := by omega
  simp [c1, c2]

/-- `layout(n)` fails exactly when the unpadded block would leave no room for the alignment below
    `isize::MAX + 1` (the array test is implied: `align_of::<T>()` divides the block's alignment). -/
theorem layout_eq_none_iff (p : TVParams) (n : Nat) :
    layout p n = none ↔ 2 ^ 63 - layoutAlign p < dataOffset p + p.szT * n := by
  constructor
  · intro h
    apply Nat.lt_of_not_le
    intro hc
    rw [layout_of hc] at h
    cases h
  · intro h
    cases hl : layout p n with
    | none => rfl
    | some r =>
      obtain ⟨_, h2, h3, _⟩ := layout_some hl
      omega

/-- Where the padded size lies: the first multiple of the alignment at or after the unpadded size,
    still within `isize::MAX + 1 - align` (both are multiples of the alignment). -/
theorem layout_size {p : TVParams} (hp : p.Ok) {n : Nat} {L : Layout} {off c : Nat}
    (h : layout p n = some (L, off, c)) :
    off + p.szT * n ≤ L.size ∧ L.size < off + p.szT * n + layoutAlign p ∧
    L.size % layoutAlign p = 0 ∧ L.size + layoutAlign p ≤ 2 ^ 63 := by
  obtain ⟨_, _, h3, h4, _⟩ := layout_some h
  obtain ⟨hA, hB, _, _⟩ := layoutAlign_ok p hp
  have hS : L.size = roundUp (off + p.szT * n) (layoutAlign p) := by rw [h4]
  have hge := roundUp_ge (off + p.szT * n) (layoutAlign p) hA
  have hlt := roundUp_lt (off + p.szT * n) (layoutAlign p) hA
  have hmod := roundUp_mod (off + p.szT * n) (layoutAlign p)
  rw [← hS] at hge hlt hmod
  have hAle : layoutAlign p ≤ 2 ^ 63 := Nat.le_of_dvd (by decide) (Nat.dvd_of_mod_eq_zero hB)
  exact ⟨hge, hlt, hmod, mult_gap _ _ _ hmod hB (by omega)⟩

theorem layout_size_le {p : TVParams} (hp : p.Ok) {n : Nat} {L : Layout} {off c : Nat}
    (h : layout p n = some (L, off, c)) : off ≤ L.size ∧ L.size + layoutAlign p ≤ 2 ^ 63 := by
  obtain ⟨h1, _, _, h4⟩ := layout_size hp h
  exact ⟨by omega, h4⟩

theorem layout_cap {p : TVParams} {n : Nat} {L : Layout} {off c : Nat}
    (h : layout p n = some (L, off, c)) (hz : p.szT ≠ 0) : c = (L.size - off) / p.szT := by
  have h5 := (layout_some h).2.2.2.2
  rwa [if_neg hz] at h5

/-- The rounded capacity is at least the requested one (`debug_assert!(payload <= round_up)`), and
    twice it is still a `usize`. -/
theorem layout_ge_nz {p : TVParams} (hp : p.Ok) {n : Nat} {L : Layout} {off c : Nat}
    (h : layout p n = some (L, off, c)) (hz : p.szT ≠ 0) : n ≤ c ∧ c * 2 ≤ usizeMax := by
  obtain ⟨h1, _, _, h4⟩ := layout_size hp h
  obtain ⟨hA, _, _, _⟩ := layoutAlign_ok p hp
  have hc := layout_cap h hz
  have hf := Nat.div_mul_le_self (L.size - off) p.szT
  rw [← hc] at hf
  have hcc : c ≤ c * p.szT := Nat.le_mul_of_pos_right c (by omega)
  refine ⟨?_, by simp only [usizeMax]; omega⟩
  rw [hc, Nat.le_div_iff_mul_le (by omega), Nat.mul_comm]; omega

theorem layout_ge {p : TVParams} (hp : p.Ok) {n : Nat} {L : Layout} {off c : Nat}
    (h : layout p n = some (L, off, c)) (hn : n ≤ usizeMax) : n ≤ c := by
  by_cases hz : p.szT = 0
  · have h5 := (layout_some h).2.2.2.2
    rw [if_pos hz] at h5; omega
  · exact (layout_ge_nz hp h hz).1

/-- `offset + cap * size_of::<T>() ≤ layout.size` and the first element is aligned: the buffer
    that `alloc`/`realloc` returns really holds `cap` elements at `DATA_OFFSET`. -/
theorem layout_fits {p : TVParams} (hp : p.Ok) {n : Nat} {L : Layout} {off c : Nat}
    (h : layout p n = some (L, off, c)) (hz : p.szT ≠ 0) :
    off + c * p.szT ≤ L.size ∧ off % p.alT = 0 := by
  have h1 := (layout_size hp h).1
  have h6 := Nat.div_mul_le_self (L.size - off) p.szT
  rw [← layout_cap h hz] at h6
  exact ⟨by omega, by rw [(layout_some h).2.1]; exact roundUp_mod _ _⟩

theorem layout_zst {p : TVParams} {n : Nat} {L : Layout} {off c : Nat}
    (h : layout p n = some (L, off, c)) (hz : p.szT = 0) :
    c = usizeMax ∧ L.size = roundUp (dataOffset p) (layoutAlign p) := by
  obtain ⟨_, h2, _, h4, h5⟩ := layout_some h
  simp [hz] at h5
  subst h2
  simp [h4, h5, hz]

/-- Recomputing the layout from the rounded capacity gives the same layout (and the same rounded
    capacity): `current_layout()` is the layout the block was allocated with. -/
theorem layout_recomputed {p : TVParams} (hp : p.Ok) {n : Nat} {L : Layout} {off c : Nat}
    (h : layout p n = some (L, off, c)) : layout p c = some (L, off, c) := by
  obtain ⟨h1, h2, h3, h4, h5⟩ := layout_some h
  obtain ⟨hA, hB, hle, hT⟩ := layoutAlign_ok p hp
  by_cases hz : p.szT = 0
  · rw [layout_of (by simp [hz]; simp [hz] at h3; omega)]
    simp [hz] at h5 h4
    subst h2
    simp [hz, h4, h5]
  · obtain ⟨hge, hlt, hmod, hSB⟩ := layout_size hp h
    have hc := layout_cap h hz
    -- `c` elements end inside the last alignment unit of the block, so padding lands on `L.size` again
    have hc1 : p.szT * c ≤ L.size - off := by
      rw [hc, Nat.mul_comm]; exact Nat.div_mul_le_self _ _
    have hnc : p.szT * n ≤ p.szT * c := Nat.mul_le_mul_left _ (layout_ge_nz hp h hz).1
    have hru : roundUp (off + p.szT * c) (layoutAlign p) = L.size :=
      roundUp_unique _ _ _ hA hmod (by omega) (by omega)
    subst h2
    rw [layout_of (by omega), hru]
    simp only [hz, if_false, ← hc]
    rw [h4]

/-- Invariant of a `ThinVec`: sane type parameters, `len ≤ cap`, and `cap` is a capacity that
    `layout` produced (so that `current_layout()` is the allocation's layout). -/
structure TV.Wf (s : TV α) : Prop where
  ok : s.params.Ok
  len : s.xs.length ≤ s.cap
  fix : ∃ n L, layout s.params n = some (L, dataOffset s.params, s.cap)

theorem TV.Wf.cur {s : TV α} (hw : s.Wf) :
    ∃ L, layout s.params s.cap = some (L, dataOffset s.params, s.cap) := by
  obtain ⟨n, L, h⟩ := hw.fix
  exact ⟨L, layout_recomputed hw.ok h⟩

theorem TV.Wf.zst {s : TV α} (hw : s.Wf) (hz : s.szT = 0) : s.cap = usizeMax := by
  obtain ⟨n, L, h⟩ := hw.fix
  exact (layout_zst h hz).1

theorem TV.Wf.cap2 {s : TV α} (hw : s.Wf) (hz : s.szT ≠ 0) : s.cap * 2 ≤ usizeMax := by
  obtain ⟨n, L, h⟩ := hw.fix
  exact (layout_ge_nz hw.ok h hz).2

/-- How a request for room for `n` elements ends: refused with a capacity overflow, nothing changed;
    or granted: only the capacity changes, to some `c ≥ n` that again comes from `layout`. -/
def TV.Grown (s : TV α) (n : Nat) (r : Outcome α × TV α) : Prop :=
  r = (.panic .overflow, s) ∨
  ∃ c, r = (.ok .unit, { s with cap := c }) ∧ n ≤ c ∧ ({ s with cap := c } : TV α).Wf

theorem TV.Grown.ret {s s' : TV α} {n : Nat} {r : Outcome α × TV α} (h : s.Grown n r)
    (hr : r = (.ok .unit, s')) : n ≤ s'.cap ∧ s'.xs = s.xs := by
  rcases h with rfl | ⟨c, rfl, h2, _⟩ <;> cases hr
  exact ⟨h2, rfl⟩

theorem TV.setCapacity_spec (s : TV α) (hw : s.Wf) (n : Nat) (hn : s.xs.length ≤ n)
    (hu : n ≤ usizeMax) : s.Grown n (s.setCapacity n) := by
  obtain ⟨L, hc⟩ := hw.cur
  unfold TV.setCapacity
  rw [hc]
  cases hl : layout s.params n with
  | none => left; rfl
  | some r =>
    obtain ⟨nl, o, rc⟩ := r
    right
    have ho := (layout_some hl).2.1
    have hge : n ≤ rc := layout_ge hw.ok hl hu
    by_cases he : L = nl
    · refine ⟨s.cap, by simp [he], ?_, by cases s; exact hw⟩
      have e1 := (layout_some hl).2.2.2.2
      have e2 := (layout_some hc).2.2.2.2
      rw [he, ← ho] at e2
      rw [e2, ← e1]; exact hge
    · refine ⟨rc, by simp [he], hge, ⟨hw.ok, by simp only; omega, ⟨n, nl, ?_⟩⟩⟩
      rw [ho] at hl; exact hl

theorem TV.setCapacity_overflow_iff {s : TV α} (hw : s.Wf) (n : Nat) :
    (s.setCapacity n).1 = .panic .overflow ↔ layout s.params n = none := by
  obtain ⟨L, hc⟩ := hw.cur
  unfold TV.setCapacity
  rw [hc]
  cases layout s.params n with
  | none => exact ⟨fun _ => rfl, fun _ => rfl⟩
  | some r => dsimp only; split <;> exact ⟨nofun, nofun⟩

/-- `reserve` and `reserve_exact` differ only in the capacity `f required` they ask of
    `set_capacity`: the request is refused when `len + k` overflows, otherwise any `f required`
    between `required` and `usize::MAX` ends with `len + k ≤ cap`. -/
theorem TV.reserveWith_spec (s : TV α) (hw : s.Wf) (k : Nat) (f : Nat → Nat)
    (hf : s.cap - s.xs.length < k → s.xs.length + k ≤ usizeMax →
      s.xs.length + k ≤ f (s.xs.length + k) ∧ f (s.xs.length + k) ≤ usizeMax) :
    let r : Outcome α × TV α :=
      if k > s.cap - s.xs.length then
        match checkedAdd s.xs.length k with
        | none => (.panic .overflow, s)
        | some required => s.setCapacity (f required)
      else (.ok .unit, s)
    s.Grown (s.xs.length + k) r := by
  have hl := hw.len
  by_cases hb : k > s.cap - s.xs.length
  · simp only [hb, if_true]
    unfold checkedAdd
    by_cases ho : s.xs.length + k ≤ usizeMax
    · simp only [ho, if_true]
      obtain ⟨h1, h2⟩ := hf hb ho
      rcases TV.setCapacity_spec s hw (f (s.xs.length + k)) (by omega) h2 with h | ⟨c, h1, h3, h4⟩
      · exact .inl h
      · exact .inr ⟨c, h1, by omega, h4⟩
    · exact .inl (by simp [ho])
  · exact .inr ⟨s.cap, by simp [hb], by omega, hw⟩

theorem TV.reserve_spec (s : TV α) (hw : s.Wf) (k : Nat) : s.Grown (s.xs.length + k) (s.reserve k) :=
  TV.reserveWith_spec s hw k (fun r => max r (s.cap * 2)) fun hb ho => by
    -- zero-sized elements: `cap = usize::MAX`, nothing more can be asked for
    by_cases hz : s.szT = 0
    · have := hw.zst hz; have := hw.len; omega
    · have := hw.cap2 hz; omega

theorem TV.reserveExact_spec (s : TV α) (hw : s.Wf) (k : Nat) :
    s.Grown (s.xs.length + k) (s.reserveExact k) :=
  TV.reserveWith_spec s hw k id fun _ ho => ⟨Nat.le_refl _, ho⟩

theorem TV.afterReserve_spec (s : TV α) (hw : s.Wf) (k : Nat) (f : TV α → Outcome α × TV α) :
    s.afterReserve k f = (.panic .overflow, s) ∨
    ∃ c, s.xs.length + k ≤ c ∧ ({ s with cap := c } : TV α).Wf ∧
      s.afterReserve k f = f { s with cap := c } := by
  unfold TV.afterReserve
  rcases TV.reserve_spec s hw k with h | ⟨c, h1, h2, h3⟩
  · left; rw [h]
  · right; exact ⟨c, h2, h3, by rw [h1]⟩

/-- `with_capacity(n)`: panics (layout too large) or yields an empty vector with capacity
    `≥ n` (for zero-sized elements: `usize::MAX`). -/
theorem TV.withCapacity_spec (p : TVParams) (hp : p.Ok) (n : Nat) :
    (TV.withCapacity p n : Option (TV α)) = none ∨
    ∃ t : TV α, TV.withCapacity p n = some t ∧ t.Wf ∧ t.xs = [] ∧ t.params = p ∧
      (p.szT ≠ 0 → n ≤ t.cap) ∧ (p.szT = 0 → t.cap = usizeMax) := by
  unfold TV.withCapacity
  cases hl : layout p (max n (minimalCapacity p.szT)) with
  | none => left; simp only [hl]
  | some r =>
    obtain ⟨L, o, c⟩ := r
    right
    have ho := (layout_some hl).2.1
    refine ⟨⟨c, [], p.szT, p.alT, p.szP, p.alP⟩, by simp only [hl], ⟨hp, by simp, ⟨max n (minimalCapacity p.szT), L, ?_⟩⟩, rfl, rfl, ?_, ?_⟩
    · rw [ho] at hl; exact hl
    · intro hz
      have := (layout_ge_nz hp hl hz).1
      simp only; omega
    · intro hz; exact (layout_zst hl hz).1

/-- Arguments that are slices have a `usize` length (only matters for zero-sized elements, whose
    capacity is `usize::MAX`). -/
def Op.InRange : Op α → Prop
  | .from _ _ items => items.length ≤ usizeMax
  | _ => True

/-- One `ThinVec` step against the `Vec` specification: the invariant holds afterwards, the type
    parameters are those of the variable, and either the step panicked with a capacity overflow
    (keeping the old elements plus a prefix of what was being appended) or it returned what `Vec`
    returns and holds what `Vec` holds. -/
structure TV.Sim (s : TV α) (op : Op α) (r : Outcome α × TV α) : Prop where
  wf : r.2.Wf
  params : r.2.params = s.params
  res : (r.1 = .panic .overflow ∧ ∃ pre, pre <+: appended op ∧ r.2.xs = s.xs ++ pre) ∨
        (r.1 = (specStep s.xs op).1 ∧ r.2.xs = (specStep s.xs op).2)

theorem TV.Sim.keeps {s : TV α} {op : Op α} {r : Outcome α × TV α} (sim : TV.Sim s op r)
    (ha : appended op = []) (hk : (specStep s.xs op).2 = s.xs) :
    r.2.xs = s.xs ∧ s.xs.length ≤ r.2.cap := by
  have hx : r.2.xs = s.xs := by
    rcases sim.res with ⟨_, pre, hp, h⟩ | ⟨_, h⟩
    · rw [ha, List.prefix_nil] at hp; rw [h, hp, List.append_nil]
    · rw [h, hk]
  exact ⟨hx, hx ▸ sim.wf.len⟩

theorem TV.sim_overflow (s : TV α) (hw : s.Wf) (op : Op α) : TV.Sim s op (.panic .overflow, s) :=
  ⟨hw, rfl, .inl ⟨rfl, [], List.nil_prefix, by simp⟩⟩

theorem TV.Wf.withXs {s : TV α} {c : Nat} (hw : ({ s with cap := c } : TV α).Wf) (ys : List α)
    (h : ys.length ≤ c) : ({ s with cap := c, xs := ys } : TV α).Wf :=
  ⟨hw.ok, h, hw.fix⟩

theorem TV.sim_afterReserve (s : TV α) (hw : s.Wf) (op : Op α) (k : Nat) (o : Outcome α)
    (ys : List α → List α)
    (h : specStep s.xs op = (o, ys s.xs)) (hl : (ys s.xs).length ≤ s.xs.length + k) :
    TV.Sim s op (s.afterReserve k fun s' => (o, { s' with xs := ys s'.xs })) := by
  rcases TV.afterReserve_spec s hw k (fun s' => (o, { s' with xs := ys s'.xs })) with h0 | ⟨c, h1, h2, h3⟩
  · rw [h0]; exact TV.sim_overflow s hw op
  · rw [h3]
    exact ⟨h2.withXs _ (by simp only; omega), rfl, .inr ⟨by rw [h], by rw [h]⟩⟩

theorem TV.extendLoop_spec (s : TV α) (hw : s.Wf) (m i : Nat) (items : List α)
    (hroom : s.xs.length + min (m - i) items.length ≤ s.cap) :
    let r := s.extendLoop m i items
    r.2.Wf ∧ r.2.params = s.params ∧
    ((r.1 = .panic .overflow ∧ ∃ pre, pre <+: items ∧ r.2.xs = s.xs ++ pre) ∨
     (r.1 = .ok .unit ∧ r.2.xs = s.xs ++ items)) := by
  induction items generalizing s i with
  | nil => exact ⟨hw, rfl, .inr ⟨rfl, by simp [TV.extendLoop]⟩⟩
  | cons v rest ih =>
    simp only [TV.extendLoop]
    -- the rest of the loop, from the state holding `v`, whatever capacity `c` it got
    have step : ∀ c, ({ s with cap := c } : TV α).Wf →
        s.xs.length + 1 + min (m - (i + 1)) rest.length ≤ c →
        let r := ({ s with cap := c, xs := s.xs ++ [v] } : TV α).extendLoop m (i + 1) rest
        r.2.Wf ∧ r.2.params = s.params ∧
        ((r.1 = .panic .overflow ∧ ∃ pre, pre <+: v :: rest ∧ r.2.xs = s.xs ++ pre) ∨
         (r.1 = .ok .unit ∧ r.2.xs = s.xs ++ v :: rest)) := fun c hc hr => by
      obtain ⟨a, b, c'⟩ := ih _ (hc.withXs (s.xs ++ [v]) (by simp; omega)) (i + 1) (by simp; omega)
      refine ⟨a, b, ?_⟩
      rcases c' with ⟨e1, pre, hp, e2⟩ | ⟨e1, e2⟩
      · exact .inl ⟨e1, v :: pre, List.cons_prefix_cons.mpr ⟨rfl, hp⟩, by simp [e2]⟩
      · exact .inr ⟨e1, by simp [e2]⟩
    simp only [List.length_cons] at hroom
    by_cases hi : i ≥ m
    · simp only [hi, if_true]
      rcases TV.reserve_spec s hw 1 with h | ⟨c, h1, h2, h3⟩
      · rw [h]; exact ⟨hw, rfl, .inl ⟨rfl, [], List.nil_prefix, by simp⟩⟩
      · rw [h1]; exact step c h3 (by omega)
    · simp only [hi, if_false]
      exact step s.cap hw (by omega)

theorem TV.pop_spec (s : TV α) :
    s.pop = (.ok (.opt (Spec.Vec.pop s.xs).1), { s with xs := (Spec.Vec.pop s.xs).2 }) := by
  unfold TV.pop Spec.Vec.pop
  by_cases h : s.xs.length = 0
  · have : s.xs = [] := List.eq_nil_of_length_eq_zero h
    cases s; simp_all
  · have hl : s.xs.length - 1 < s.xs.length := by omega
    simp [h, List.getLast?_eq_getElem?, List.getElem?_eq_getElem hl, List.dropLast_eq_take]

theorem TV.Wf.cap_le {s : TV α} (hw : s.Wf) : s.cap ≤ usizeMax := by
  by_cases hz : s.szT = 0
  · rw [hw.zst hz]; exact Nat.le_refl _
  · have := hw.cap2 hz; omega

theorem TV.sim_xs {s : TV α} (hw : s.Wf) {op : Op α} {o : Outcome α} {ys : List α}
    (h : specStep s.xs op = (o, ys)) (hn : needs s.xs op ≤ s.xs.length) :
    TV.Sim s op (o, { s with xs := ys }) := by
  have hl := spec_length_le s.xs op
  simp only [h] at hl
  have := hw.len
  exact ⟨⟨hw.ok, (by omega : ys.length ≤ s.cap), hw.fix⟩, rfl, .inr ⟨by rw [h], by rw [h]⟩⟩

theorem TV.sim_cap {s : TV α} (hw : s.Wf) {op : Op α} {r : Outcome α × TV α} {n : Nat} (h : s.Grown n r)
    (hs : specStep s.xs op = (.ok .unit, s.xs)) : TV.Sim s op r := by
  rcases h with rfl | ⟨c, rfl, _, h3⟩
  · exact TV.sim_overflow s hw _
  · exact ⟨h3, rfl, .inr ⟨by rw [hs], by rw [hs]⟩⟩

theorem TV.truncate_eq (s : TV α) (n : Nat) : s.truncate n = (.ok .unit, { s with xs := s.xs.take n }) := by
  unfold TV.truncate
  split
  · rw [List.take_of_length_le (by omega)]
  · rfl


theorem TV.tryExtendFromWithin_eq (s : TV α) (sb eb : Bnd) :
    s.tryExtendFromWithin sb eb =
      match Spec.Vec.range sb eb s.xs.length with
      | none => (.err (.range (rangeErrorOf sb eb s.xs.length)) .unit, s)
      | some (a, b) =>
        s.afterReserve (b - a) fun s' => (.ok .unit, { s' with xs := s'.xs ++ (s'.xs.drop a).take (b - a) }) := by
  simp only [TV.tryExtendFromWithin, rangeMono_spec]
  cases Spec.Vec.range sb eb s.xs.length <;> rfl

/-- The panicking variant: `reserve` never answers with an error, so only a range error is turned
    into a panic. -/
theorem TV.extendFromWithin_eq (s : TV α) (hw : s.Wf) (sb eb : Bnd) :
    s.extendFromWithin sb eb =
      match Spec.Vec.range sb eb s.xs.length with
      | none => (.panic .range, s)
      | some (a, b) =>
        s.afterReserve (b - a) fun s' => (.ok .unit, { s' with xs := s'.xs ++ (s'.xs.drop a).take (b - a) }) := by
  simp only [TV.extendFromWithin, TV.tryExtendFromWithin_eq]
  cases Spec.Vec.range sb eb s.xs.length with
  | none => rfl
  | some p =>
    rcases TV.afterReserve_spec s hw (p.2 - p.1)
      (fun s' => (.ok .unit, { s' with xs := s'.xs ++ (s'.xs.drop p.1).take (p.2 - p.1) })) with h | ⟨c, _, _, h⟩ <;>
      simp only [h]

theorem TV.step_sim (s : TV α) (hw : s.Wf) (op : Op α) (hs : op.forTV = true) (hr : op.InRange) :
    TV.Sim s op (s.step op) := by
  have hlen := hw.len
  cases op
  case push v =>
    exact TV.sim_afterReserve s hw _ 1 _ (fun xs => xs ++ [v]) rfl (by simp)
  case extendFromSlice l | extendFromSliceCopy l | spareWrite l | append l =>
    exact TV.sim_afterReserve s hw _ l.length _ (fun xs => xs ++ l) rfl (by simp)
  case pop =>
    simp only [TV.step, TV.pop_spec]
    exact TV.sim_xs hw rfl (Nat.zero_le _)
  case insert i v =>
    simp only [TV.step, TV.insert]
    by_cases h : i ≤ s.xs.length
    · rw [if_pos h]
      exact TV.sim_afterReserve s hw _ 1 _ (fun xs => xs.take i ++ v :: xs.drop i)
        (by simp [specStep, Spec.Vec.insert, h, insertIdx_eq_take_drop _ _ _ h]) (by simp; omega)
    · rw [if_neg h]
      exact TV.sim_xs hw (by simp [specStep, Spec.Vec.insert, h]) (by simp [needs, h])
  case remove i =>
    simp only [TV.step, TV.remove]
    by_cases h : i < s.xs.length
    · rw [if_pos h, List.getElem?_eq_getElem h]
      exact TV.sim_xs hw (by simp [specStep, Spec.Vec.remove, h, List.eraseIdx_eq_take_drop_succ]) (Nat.zero_le _)
    · rw [if_neg h]
      exact TV.sim_xs hw (by simp [specStep, Spec.Vec.remove, h]) (Nat.zero_le _)
  case swapRemove i =>
    simp only [TV.step, TV.swapRemove]
    by_cases h : i < s.xs.length
    · have hl : s.xs.length - 1 < s.xs.length := by omega
      rw [if_pos h, List.getElem?_eq_getElem h, List.getElem?_eq_getElem hl]
      exact TV.sim_xs hw (by simp [specStep, Spec.Vec.swapRemove, h, List.getLast?_eq_getElem?,
        List.getElem?_eq_getElem hl, List.dropLast_eq_take]) (Nat.zero_le _)
    · rw [if_neg h]
      exact TV.sim_xs hw (by simp [specStep, Spec.Vec.swapRemove, h]) (Nat.zero_le _)
  case truncate n =>
    simp only [TV.step, TV.truncate_eq]
    exact TV.sim_xs hw rfl (Nat.zero_le _)
  case clear => exact TV.sim_xs hw rfl (Nat.zero_le _)
  case resize n v =>
    simp only [TV.step, TV.resize, TV.truncate_eq]
    by_cases h : n > s.xs.length
    · rw [if_pos h]
      exact TV.sim_afterReserve s hw _ _ _ (fun xs => xs ++ List.replicate (n - s.xs.length) v)
        (by simp [specStep, Spec.Vec.resize, Nat.not_le.mpr h]) (by simp)
    · rw [if_neg h]
      exact TV.sim_xs hw (by simp [specStep, Spec.Vec.resize, Nat.not_lt.mp h]) (Nat.not_lt.mp h)
  case extendFromWithin sb eb | tryExtendFromWithin sb eb =>
    simp only [TV.step, TV.extendFromWithin_eq s hw, TV.tryExtendFromWithin_eq]
    cases hrg : Spec.Vec.range sb eb s.xs.length with
    | none => exact TV.sim_xs hw (by simp [specStep, Spec.Vec.extendFromWithin, hrg]) (by simp [needs, hrg])
    | some p =>
      exact TV.sim_afterReserve s hw _ (p.2 - p.1) _ (fun xs => xs ++ (xs.drop p.1).take (p.2 - p.1))
        (by simp [specStep, Spec.Vec.extendFromWithin, hrg]) (by simp; omega)
  case extend hint items =>
    simp only [TV.step, TV.extend]
    rcases TV.afterReserve_spec s hw hint (fun s' => s'.extendLoop hint 0 items) with h | ⟨c, h1, h2, h3⟩
    · rw [h]; exact TV.sim_overflow s hw _
    · rw [h3]
      obtain ⟨a, b, r⟩ := TV.extendLoop_spec _ h2 hint 0 items (by simp only; omega)
      exact ⟨a, b, r⟩
  case splitOff n =>
    simp only [TV.step, TV.splitOff]
    by_cases h : n ≤ s.xs.length
    · rw [if_pos h]
      rcases TV.withCapacity_spec (α := α) s.params hw.ok (s.xs.length - n) with h0 | ⟨t, h1, _⟩
      · rw [h0]; exact TV.sim_overflow s hw _
      · rw [h1]; exact TV.sim_xs hw (by simp [specStep, Spec.Vec.splitOff, h]) (Nat.zero_le _)
    · rw [if_neg h]; exact TV.sim_xs hw (by simp [specStep, Spec.Vec.splitOff, h]) (Nat.zero_le _)
  case drain sb eb sc fin | tryDrain sb eb sc fin =>
    simp only [TV.step, TV.drain, TV.tryDrain, rangeMono_spec]
    cases hrg : Spec.Vec.range sb eb s.xs.length with
    | none => exact TV.sim_xs hw (by simp [specStep, Spec.Vec.drain, hrg]) (Nat.zero_le _)
    | some p =>
      cases fin <;>
        exact TV.sim_xs hw (by simp [specStep, Spec.Vec.drain, hrg, walk_eq_consume _ _ _ _ (range_bounds hrg).2])
          (Nat.zero_le _)
  case reserve n => exact TV.sim_cap hw (TV.reserve_spec s hw n) rfl
  case reserveExact n => exact TV.sim_cap hw (TV.reserveExact_spec s hw n) rfl
  case shrinkTo n =>
    have := hw.cap_le
    simp only [TV.step, TV.shrinkTo]
    split
    · exact TV.sim_xs hw rfl (Nat.zero_le _)
    · exact TV.sim_cap hw (TV.setCapacity_spec s hw _ (by omega) (by omega)) rfl
  case shrinkToFit =>
    have := hw.cap_le
    simp only [TV.step, TV.shrinkToFit]
    split
    · exact TV.sim_xs hw rfl (Nat.zero_le _)
    · exact TV.sim_cap hw (TV.setCapacity_spec s hw _ (Nat.le_refl _) (by omega)) rfl
  case withCapacity n =>
    simp only [TV.step, TV.replaceWithCapacity]
    rcases TV.withCapacity_spec (α := α) s.params hw.ok n with h0 | ⟨t, h1, h2, h3, h4, _⟩
    · rw [h0]; exact TV.sim_overflow s hw _
    · rw [h1]; exact ⟨h2, h4, .inr ⟨rfl, h3⟩⟩
  case «from» src hint items =>
    simp only [Op.InRange] at hr
    -- `with_capacity(n)` holds `n` elements: by the layout, or (zero-sized) because `n` is a `usize`
    have hfit : ∀ {n} {t : TV α}, (s.szT ≠ 0 → n ≤ t.cap) → (s.szT = 0 → t.cap = usizeMax) →
        min n items.length ≤ t.cap := fun h5 h6 => by
      by_cases hz : s.szT = 0
      · have := h6 hz; omega
      · have := h5 hz; omega
    by_cases hsrc : src = .iter
    · subst hsrc
      simp only [TV.step, TV.from_]
      rcases TV.withCapacity_spec (α := α) s.params hw.ok hint with h0 | ⟨t, h1, h2, h3, h4, h5, h6⟩
      · rw [h0]; exact TV.sim_overflow s hw _
      · rw [h1]
        dsimp only
        obtain ⟨a, b, r⟩ := TV.extendLoop_spec t h2 hint 0 items (by rw [h3]; simpa using hfit h5 h6)
        rcases r with ⟨e1, _⟩ | ⟨e1, e2⟩
        · rw [show t.extendLoop hint 0 items = (.panic .overflow, _) from Prod.ext e1 rfl]
          exact TV.sim_overflow s hw _
        · rw [show t.extendLoop hint 0 items = (.ok .unit, _) from Prod.ext e1 rfl]
          exact ⟨a, by rw [b, h4], .inr ⟨rfl, by simp [e2, h3, specStep, Spec.Vec.fromItems]⟩⟩
    · have : s.step (.from src hint items) =
          match (TV.withCapacity s.params items.length : Option (TV α)) with
          | none => (.panic .overflow, s)
          | some t => (.ok .unit, { t with xs := items }) := by
        cases src <;> first | rfl | exact absurd rfl hsrc
      rw [this]
      rcases TV.withCapacity_spec (α := α) s.params hw.ok items.length with h0 | ⟨t, h1, h2, h3, h4, h5, h6⟩
      · rw [h0]; exact TV.sim_overflow s hw _
      · rw [h1]
        exact ⟨⟨h2.ok, by simpa using hfit h5 h6, h2.fix⟩, h4, .inr ⟨rfl, rfl⟩⟩
  all_goals exact absurd hs Bool.false_ne_true

theorem TV.step_unsupported (s : TV α) (op : Op α) (hs : op.forTV = false) :
    s.step op = (unsupported, s) := by
  cases op <;> simp [Op.forTV] at hs <;> rfl

theorem TV.step_wf (s : TV α) (hw : s.Wf) (op : Op α) (hr : op.InRange) :
    (s.step op).2.Wf ∧ (s.step op).2.params = s.params := by
  by_cases hs : op.forTV = true
  · have := TV.step_sim s hw op hs hr
    exact ⟨this.wf, this.params⟩
  · rw [TV.step_unsupported s op (by simpa using hs)]
    exact ⟨hw, rfl⟩

theorem TV.run_wf (s : TV α) (hw : s.Wf) (ops : List (Op α)) (hr : ∀ op ∈ ops, op.InRange) :
    (s.run ops).2.Wf ∧ (s.run ops).2.params = s.params := by
  induction ops generalizing s with
  | nil => exact ⟨hw, rfl⟩
  | cons op rest ih =>
    have h1 := TV.step_wf s hw op (hr op (List.mem_cons_self ..))
    have h2 := ih (s.step op).2 h1.1 (fun o ho => hr o (List.mem_cons_of_mem _ ho))
    simp only [TV.run]
    exact ⟨h2.1, by rw [h2.2, h1.2]⟩

theorem TV.new_wf (p : TVParams) (hp : p.Ok) (s : TV α) (h : TV.new p = some s) :
    s.Wf ∧ s.xs = [] ∧ s.params = p := by
  unfold TV.new at h
  rcases TV.withCapacity_spec (α := α) p hp (minimalCapacity p.szT) with h0 | ⟨t, h1, h2, h3, h4, _⟩
  · rw [h0] at h; simp at h
  · rw [h1] at h; simp at h; subst h; exact ⟨h2, h3, h4⟩

/-- A whole history on a std `Vec` (contents are kept after a panic, as `catch_unwind` shows). -/
def specRun (xs : List α) : List (Op α) → List (Outcome α) × List α
  | [] => ([], xs)
  | op :: rest =>
    let r := specStep xs op
    let q := specRun r.2 rest
    (r.1 :: q.1, q.2)

/-- Along the history (followed on the `Vec` side) every operation exists on `InlineVec` and the
    fixed capacity suffices for it. -/
def IVFits (cap : Nat) (xs : List α) : List (Op α) → Prop
  | [] => True
  | op :: rest => op.forIV = true ∧ needs xs op ≤ cap ∧ IVFits cap (specStep xs op).2 rest

/-- Along the history (followed on the model) every operation exists on `ThinVec`, has `usize`
    arguments and does not hit a capacity overflow. -/
def TVQuiet (s : TV α) : List (Op α) → Prop
  | [] => True
  | op :: rest =>
    op.forTV = true ∧ op.InRange ∧ (s.step op).1 ≠ .panic .overflow ∧ TVQuiet (s.step op).2 rest

def IVReach (cap : Nat) (s : IV α) : Prop := ∃ ops, s = ((IV.new cap : IV α).run ops).2

def TVReach (p : TVParams) (s : TV α) : Prop :=
  p.Ok ∧ ∃ s0 ops, TV.new p = some s0 ∧ (∀ op ∈ ops, op.InRange) ∧ s = (s0.run ops).2

theorem IVReach.wf {cap : Nat} {s : IV α} (h : IVReach cap s) :
    s.cap = cap ∧ s.xs.length ≤ s.cap := by
  obtain ⟨ops, rfl⟩ := h
  have := IV.run_wf (IV.new cap : IV α) ops (by simp [IV.new])
  simp only [IV.new] at this ⊢
  exact ⟨this.1, by rw [this.1]; exact this.2⟩

theorem TVReach.wf {p : TVParams} {s : TV α} (h : TVReach p s) : s.Wf ∧ s.params = p := by
  obtain ⟨hp, s0, ops, h0, hr, rfl⟩ := h
  obtain ⟨w0, _, p0⟩ := TV.new_wf p hp s0 h0
  have := TV.run_wf s0 w0 ops hr
  exact ⟨this.1, by rw [this.2, p0]⟩

/-- A `ThinVec<u64, Reserved>` right after `new()`. -/
def tv0 : TV Nat := ⟨4, [], 8, 8, 8, 8⟩

theorem tv0_reach : TVReach ⟨8, 8, 8, 8⟩ tv0 :=
  ⟨⟨⟨3, by decide, rfl⟩, ⟨3, by decide, rfl⟩⟩, tv0, [], by decide, by simp, rfl⟩

theorem tv0_wf : tv0.Wf := tv0_reach.wf.1


theorem IV.stepRep_eq (s : IV α) (hw : s.xs.length ≤ s.cap) (sh : RepShape) (n : Nat) (v : α) :
    s.stepRep sh n v = s.step (sh.toOp (List.replicate n v)) := by
  cases sh with
  | append => simp [IV.stepRep, RepShape.toOp, IV.step, IV.append]
  | extendFromSlice => simp [IV.stepRep, RepShape.toOp, IV.step, IV.extendFromSlice]
  | extendFromSliceCopy => simp [IV.stepRep, RepShape.toOp, IV.step, IV.extendFromSlice]
  | extend hint =>
    simp only [IV.stepRep, RepShape.toOp, IV.step]
    by_cases h : s.xs.length + n ≤ s.cap
    · rw [IV.extend_spec s _ (by simpa using h)]; simp [h]
    · rw [IV.extend_exceed s _ hw (by simp; omega)]
      have : min (s.cap - s.xs.length) n = s.cap - s.xs.length := by omega
      simp [h, List.take_replicate, this]
  | fromIter hint =>
    simp only [IV.stepRep, RepShape.toOp, IV.step, IV.from_]
    by_cases hh : hint ≤ s.cap
    · by_cases hn : n ≤ s.cap
      · have := IV.extend_spec (IV.new s.cap) (List.replicate n v) (by simp [IV.new]; omega)
        simp [IV.new] at this
        simp [hh, hn, IV.new, this]
      · have := IV.extend_exceed (IV.new s.cap) (List.replicate n v) (by simp [IV.new]) (by simp [IV.new]; omega)
        simp [IV.new] at this
        simp [hh, hn, IV.new, this]
    · simp [hh, IV.new]

theorem TV.stepRep_eq (s : TV α) (sh : RepShape) (n : Nat) (v : α) (h : ∀ k, sh ≠ .fromIter k) :
    s.stepRep sh n v = s.step (sh.toOp (List.replicate n v)) := by
  cases sh with
  | append => simp [TV.stepRep, RepShape.toOp, TV.step, TV.append]
  | extendFromSlice => simp [TV.stepRep, RepShape.toOp, TV.step, TV.extendFromSlice]
  | extendFromSliceCopy => simp [TV.stepRep, RepShape.toOp, TV.step, TV.extendFromSlice]
  | extend hint => simp [TV.stepRep, RepShape.toOp, TV.step, TV.extend]
  | fromIter k => exact absurd rfl (h k)

/-- The wrapping check agrees with the model only below `2^64`. -/
theorem capOk_wrapping_iff (len n cap : Nat) (h : len + n < U) :
    capOk_wrapping len n cap ↔ len + n ≤ cap := by
  unfold capOk_wrapping; rw [Nat.mod_eq_of_lt h]

end HipVerif.Vecs
