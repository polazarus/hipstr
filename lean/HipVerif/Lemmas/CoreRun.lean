/-
From single steps to every finite history: the invariant and the refinement, lifted by
induction over the operation list.
-/
import HipVerif.Lemmas.CoreStep

namespace HipVerif.Core
open HipVerif.Spec.Std

/-- side conditions along a history: every operation is a call a Rust program can make, in the
state in which it is made -/
def AllOk (cfg : Cfg) (s : State) : List Op → Prop
  | [] => True
  | op :: ops => OpOk s op ∧ AllOk cfg (step cfg s op).1 ops

/-- the specification run on a history, told at each step the representation-dependent answer
the implementation gave -/
def specRun (icap : Nat) (srcs : List (List UInt8)) (p : SPool) : List (Op × Bool) → SPool × List Ret
  | [] => (p, [])
  | (op, flag) :: rest =>
    let (p1, r) := Spec.Std.step icap srcs p op flag
    let (p2, rs) := specRun icap srcs p1 rest
    (p2, r :: rs)

theorem run_nil (cfg : Cfg) (s : State) : run cfg s [] = (s, []) := rfl

theorem run_cons (cfg : Cfg) (s : State) (op : Op) (ops : List Op) :
    run cfg s (op :: ops) =
      ((run cfg (step cfg s op).1 ops).1, (step cfg s op).2 :: (run cfg (step cfg s op).1 ops).2) := rfl

theorem wf_run (cfg : Cfg) (ops : List Op) : ∀ s, Wf cfg s → Wf cfg (run cfg s ops).1 := by
  induction ops with
  | nil => intro s w; exact w
  | cons op ops ih => intro s w; rw [run_cons]; exact ih _ (wf_step cfg s op w)

theorem srcs_run (cfg : Cfg) (ops : List Op) : ∀ s, (run cfg s ops).1.srcs = s.srcs := by
  induction ops with
  | nil => intro s; rfl
  | cons op ops ih => intro s; rw [run_cons]; simp only; rw [ih, srcs_step]

theorem norm_run (cfg : Cfg) (ops : List Op) :
    ∀ s, Wf cfg s → NormOk cfg s → NormOk cfg (run cfg s ops).1 := by
  induction ops with
  | nil => intro s _ n; exact n
  | cons op ops ih =>
    intro s w n; rw [run_cons]
    exact ih _ (wf_step cfg s op w) (norm_step cfg s op w n)

theorem run_refines (cfg : Cfg) (ops : List Op) :
    ∀ s, Wf cfg s → AllOk cfg s ops →
      specRun cfg.icap s.srcs (abs s) (ops.zip ((run cfg s ops).2.map (fun o => retFlag o.ret))) =
        (abs (run cfg s ops).1, (run cfg s ops).2.map (fun o => eraseRet o.ret)) := by
  induction ops with
  | nil => intro s _ _; rfl
  | cons op ops ih =>
    intro s w hok
    rw [run_cons]
    simp only [List.map_cons, List.zip_cons_cons, specRun]
    rw [refines cfg s op w hok.1]
    simp only
    have := ih (step cfg s op).1 (wf_step cfg s op w) hok.2
    rw [srcs_step] at this
    rw [this]

end HipVerif.Core
