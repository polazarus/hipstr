/-
The buffer ledger against the states of the Core state machine: `LInv S L held` (the ledger `L`
describes exactly the buffers owned by the live boxes of `S` and by the Vec `held` in a local
variable), `Trans` (an event list moves it), and the generic moves: nothing the ledger sees changes,
an owner goes away, an owner reallocates.  What each helper function of `step` does is in
`CoreMove.lean`.
-/
import HipVerif.Lemmas.CoreLedger
import HipVerif.Lemmas.CoreStep

namespace HipVerif.Core
open HipVerif.Spec.Std

/-- position `some j` = the live box `j` (with its Vec's buffer and capacity); position `none` = the
Vec `(buf, cap)` held in a local variable in the middle of an operation -/
def OwnsAt (S : State) (held : Option (Nat × Nat)) : Option Nat → Nat → Nat → Prop
  | some j, b, c => ∃ y, getI S j = some y ∧ y.live = true ∧ y.buf = b ∧ y.cap = c
  | none, b, c => held = some (b, c)

def LInv (S : State) (L : Ledger) (held : Option (Nat × Nat)) : Prop :=
  LInvR (OwnsAt S held) S.nextBuf L

theorem ownsAt_box_iff {S : State} {b c : Nat} :
    (∃ p, OwnsAt S none p b c) ↔ ∃ j y, getI S j = some y ∧ y.live = true ∧ y.buf = b ∧ y.cap = c := by
  constructor
  · rintro ⟨p, hp⟩
    cases p with
    | none => cases hp
    | some j => obtain ⟨y, hy⟩ := hp; exact ⟨j, y, hy⟩
  · rintro ⟨j, y, hy⟩; exact ⟨some j, y, hy⟩

def ledgerOf (s : State) : Ledger :=
  ⟨(s.inners.filter (fun x => x.live && decide (0 < x.cap))).map (fun x => (x.buf, x.cap)), []⟩

theorem mem_ledgerOf {s : State} {b c : Nat} : (b, c) ∈ (ledgerOf s).live ↔
    0 < c ∧ ∃ j y, getI s j = some y ∧ y.live = true ∧ y.buf = b ∧ y.cap = c := by
  simp only [ledgerOf, List.mem_map, List.mem_filter, Prod.mk.injEq, Bool.and_eq_true, decide_eq_true_eq]
  constructor
  · rintro ⟨y, ⟨hm, hl, hc⟩, rfl, rfl⟩
    obtain ⟨j, hj, rfl⟩ := List.getElem_of_mem hm
    exact ⟨hc, j, _, List.getElem?_eq_getElem hj, hl, rfl, rfl⟩
  · rintro ⟨hc, j, y, hy, hl, rfl, rfl⟩
    exact ⟨y, ⟨List.mem_of_getElem? hy, hl, hc⟩, rfl, rfl⟩

/-- in a well-formed state the buffers of the live boxes are fresh and pairwise distinct: that is
all the ledger invariant asks of a state nobody holds a Vec of -/
theorem lInv_of_wf {cfg : Cfg} {s : State} (w : Wf cfg s) : LInv s (ledgerOf s) none := by
  have hbox : ∀ {p b c}, OwnsAt s none p b c → ∃ j y, p = some j ∧ getI s j = some y ∧ y.live = true ∧
      y.buf = b ∧ y.cap = c := by
    intro p b c h
    cases p with
    | none => cases h
    | some j => obtain ⟨y, hy⟩ := h; exact ⟨j, y, rfl, hy⟩
  refine { fresh := ?_, idsFresh := ?_, inj := ?_, func := ?_, live_iff := ?_, gone := fun _ _ _ _ h => by cases h }
  · intro p b c h
    obtain ⟨j, y, _, hy, _, rfl, _⟩ := hbox h
    exact w.bufFresh j y hy
  · intro b hb
    rcases List.mem_append.mp hb with hb | hb
    case inr => cases hb
    obtain ⟨c, hc⟩ := Ledger.mem_liveIds.mp hb
    obtain ⟨_, j, y, hy, _, rfl, _⟩ := mem_ledgerOf.mp hc
    exact w.bufFresh j y hy
  · intro p p' b c c' h h'
    obtain ⟨j, y, rfl, hy, hl, hb, _⟩ := hbox h
    obtain ⟨j', y', rfl, hy', hl', hb', _⟩ := hbox h'
    apply Classical.byContradiction
    intro hne
    exact w.bufDistinct j j' y y' hy hy' (fun e => hne (congrArg some e)) hl hl' (hb.trans hb'.symm)
  · intro p b b' c c' h h'
    obtain ⟨j, y, rfl, hy, _, hb, hc⟩ := hbox h
    obtain ⟨y', hy', _, hb', hc'⟩ := h'
    rw [hy] at hy'; cases hy'
    exact ⟨hb.symm.trans hb', hc.symm.trans hc'⟩
  · intro b c
    rw [mem_ledgerOf, ownsAt_box_iff]

def Trans (S : State) (held : Option (Nat × Nat)) (ev : List Event) (S' : State)
    (held' : Option (Nat × Nat)) : Prop :=
  ∀ L, LInv S L held → Accepted L ev ∧ LInv S' (L.run ev) held'

theorem Trans.trans {S S1 S2 : State} {h h1 h2 : Option (Nat × Nat)} {ev1 ev2 : List Event}
    (a : Trans S h ev1 S1 h1) (b : Trans S1 h1 ev2 S2 h2) : Trans S h (ev1 ++ ev2) S2 h2 := by
  intro L hL
  obtain ⟨a1, a2⟩ := a L hL
  obtain ⟨b1, b2⟩ := b _ a2
  exact ⟨accepted_append.mpr ⟨a1, b1⟩, by rw [Ledger.run_append]; exact b2⟩

theorem trans_refl (S : State) (h : Option (Nat × Nat)) : Trans S h [] S h :=
  fun _ hL => ⟨trivial, hL⟩

def bufSig (S : State) (j : Nat) : Option (Bool × Nat × Nat) := (getI S j).map (fun x => (x.live, x.buf, x.cap))

theorem ownsAt_of_bufSig {S S' : State} {held : Option (Nat × Nat)} (h : ∀ j, bufSig S' j = bufSig S j)
    (p : Option Nat) (b c : Nat) : OwnsAt S' held p b c ↔ OwnsAt S held p b c := by
  cases p with
  | none => exact Iff.rfl
  | some j =>
    have hj := h j
    unfold bufSig at hj
    unfold OwnsAt
    cases h1 : getI S' j <;> cases h2 : getI S j <;> simp_all

theorem trans_quiet {S S' : State} {held : Option (Nat × Nat)} (h : ∀ j, bufSig S' j = bufSig S j)
    (hn : S.nextBuf ≤ S'.nextBuf) : Trans S held [] S' held :=
  fun _ hL => ⟨trivial, (LInvR.mono hL hn).congr (ownsAt_of_bufSig h)⟩

theorem trans_neutral {S : State} {held : Option (Nat × Nat)} (ev : List Event)
    (hev : ∀ e, e ∈ ev → (∃ i, e = .allocInner i) ∨ (∃ i, e = .freeInner i)) : Trans S held ev S held := by
  induction ev with
  | nil => exact trans_refl S held
  | cons e r ih =>
    intro L hL
    have he := hev e (List.mem_cons_self ..)
    have := ih (fun e' h' => hev e' (List.mem_cons_of_mem _ h')) L hL
    rcases he with ⟨i, rfl⟩ | ⟨i, rfl⟩
    · exact ⟨⟨trivial, this.1⟩, this.2⟩
    · exact ⟨⟨trivial, this.1⟩, this.2⟩

theorem trans_leaveAt {S S' : State} {held held' : Option (Nat × Nat)} {p : Option Nat} {b c : Nat}
    (hown : OwnsAt S held p b c) {e : Event} (he : e = .freeBuf b ∨ e = .exportBuf b)
    (hR : ∀ p' b' c', OwnsAt S' held' p' b' c' ↔ (OwnsAt S held p' b' c' ∧ p' ≠ p))
    (hn : S'.nextBuf = S.nextBuf) : Trans S held (if c > 0 then [e] else []) S' held' := by
  intro L hL
  unfold LInv
  rw [hn]
  by_cases hc : 0 < c
  · simp only [gt_iff_lt, hc, if_true]
    obtain ⟨hd, hin, _⟩ := LInvR.del hL hown
    rcases he with rfl | rfl <;> exact ⟨⟨hin hc, trivial⟩, hd.congr hR⟩
  · simp only [gt_iff_lt, hc, if_false]
    have h0 : c = 0 := by omega
    subst h0
    exact ⟨trivial, (LInvR.del_cap0 hL hown).congr hR⟩

theorem trans_regrowAt {S S' : State} {held held' : Option (Nat × Nat)} {p : Option Nat} {b c : Nat}
    (hown : OwnsAt S held p b c) (c1 : Nat) (hc1 : 0 < c1)
    (hR : ∀ p' b' c', OwnsAt S' held' p' b' c' ↔
      ((OwnsAt S held p' b' c' ∧ p' ≠ p) ∨ (p' = p ∧ b' = S.nextBuf ∧ c' = c1)))
    (hn : S'.nextBuf = S.nextBuf + 1) :
    Trans S held [if c > 0 then Event.growBuf b S.nextBuf c1 else Event.allocBuf S.nextBuf c1] S' held' := by
  intro L hL
  unfold LInv
  rw [hn]
  have hfree : ∀ b c, ¬ (OwnsAt S held p b c ∧ p ≠ p) := fun _ _ h => h.2 rfl
  by_cases hcap : 0 < c
  · simp only [gt_iff_lt, hcap, if_true]
    obtain ⟨hd, hin, _⟩ := LInvR.del hL hown
    obtain ⟨ha, hun⟩ := LInvR.add hd p S.nextBuf c1 hfree (Nat.le_refl _) (Nat.lt_succ_self _)
    simp only [hc1, if_true] at ha
    exact ⟨⟨⟨hin hcap, fun hm => Nat.lt_irrefl _ (hL.idsFresh _ hm), hc1⟩, trivial⟩, ha.congr hR⟩
  · simp only [gt_iff_lt, hcap, if_false]
    have h0 : c = 0 := by omega
    subst h0
    obtain ⟨ha, hun⟩ := LInvR.add (LInvR.del_cap0 hL hown) p S.nextBuf c1 hfree (Nat.le_refl _) (Nat.lt_succ_self _)
    simp only [hc1, if_true] at ha
    exact ⟨⟨⟨hc1, hun⟩, trivial⟩, ha.congr hR⟩

theorem ownsAt_append (S : State) (x : Inner) (n' : Nat) (held : Option (Nat × Nat)) (p : Option Nat) (b c : Nat) :
    OwnsAt { S with inners := S.inners ++ [x], nextBuf := n' } held p b c ↔
      OwnsAt S held p b c ∨ (p = some S.inners.length ∧ x.live = true ∧ b = x.buf ∧ c = x.cap) := by
  cases p with
  | none => simp [OwnsAt]
  | some j =>
    unfold OwnsAt
    constructor
    · rintro ⟨y, hy, hl, hb, hc⟩
      rcases getI_append_cases { S with nextBuf := n' } x j y hy with ⟨_, hy'⟩ | ⟨rfl, rfl⟩
      · exact Or.inl ⟨y, hy', hl, hb, hc⟩
      · exact Or.inr ⟨rfl, hl, hb.symm, hc.symm⟩
    · rintro (⟨y, hy, hl, hb, hc⟩ | ⟨hj, hl, rfl, rfl⟩)
      · exact ⟨y, by rw [getI_append_lt { S with nextBuf := n' } x j (getI_some_lt hy)]; exact hy, hl, hb, hc⟩
      · cases hj
        exact ⟨x, getI_append_same { S with nextBuf := n' } x, hl, rfl, rfl⟩

theorem ownsAt_fresh_pos (S : State) (held : Option (Nat × Nat)) (b c : Nat) :
    ¬ OwnsAt S held (some S.inners.length) b c := by
  rintro ⟨y, hy, _⟩
  have := getI_some_lt hy
  omega

theorem ownsAt_setI {S : State} {o : Nat} {x : Inner} (hx : getI S o = some x) (x' : Inner)
    (held : Option (Nat × Nat)) (p : Option Nat) (b c : Nat) :
    OwnsAt (setI S o x') held p b c ↔
      (OwnsAt S held p b c ∧ p ≠ some o) ∨ (p = some o ∧ x'.live = true ∧ b = x'.buf ∧ c = x'.cap) := by
  cases p with
  | none => simp [OwnsAt]
  | some j =>
    simp only [OwnsAt]
    by_cases hj : o = j
    · subst hj
      rw [getI_setI_same _ _ _ (getI_some_lt hx)]
      simp only [Option.some.injEq, ne_eq, not_true_eq_false, and_false, false_or, true_and]
      constructor
      · rintro ⟨y, rfl, hl, hb, hc⟩; exact ⟨hl, hb.symm, hc.symm⟩
      · rintro ⟨hl, rfl, rfl⟩; exact ⟨x', rfl, hl, rfl, rfl⟩
    · rw [getI_setI_other _ _ _ _ hj]
      have : (some j : Option Nat) ≠ some o := fun e => hj (Option.some.inj e).symm
      simp [this]

theorem bufSig_setI {S : State} {o : Nat} {x x' : Inner} (hx : getI S o = some x)
    (hl : x'.live = x.live) (hb : x'.buf = x.buf) (hc : x'.cap = x.cap) (j : Nat) :
    bufSig (setI S o x') j = bufSig S j := by
  unfold bufSig
  by_cases hj : o = j
  · subst hj; rw [getI_setI_same _ _ _ (getI_some_lt hx), hx]; simp [hl, hb, hc]
  · rw [getI_setI_other _ _ _ _ hj]

theorem ownsAt_held_none (S : State) (n' : Nat) (p : Option Nat) (b c : Nat) :
    OwnsAt { S with nextBuf := n' } none p b c ↔ (OwnsAt S none p b c) := by
  cases p <;> rfl

theorem ownsAt_drop_held (S : State) (b0 c0 : Nat) (p : Option Nat) (b c : Nat) :
    OwnsAt S none p b c ↔ (OwnsAt S (some (b0, c0)) p b c ∧ p ≠ none) := by
  cases p <;> simp [OwnsAt]

end HipVerif.Core
