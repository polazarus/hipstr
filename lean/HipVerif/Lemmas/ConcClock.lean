import HipVerif.Lemmas.ConcCount

/-!
# C04, happens-before half: the invariant `Wf2` and its preservation

On top of the shape conditions this half needs the ordering conditions `Ords`: the decrement
is a release, the `Overflow` branch of `decr` and the `true` branch of `is_unique` acquire.
-/

namespace HipVerif.Model.Conc
open HipVerif.Model

structure Ords {c : Cfg} (sh : Shape c) : Prop where
  decr_release : sh.decrOrd.isRelease = true
  decr_acquire : (sh.decrOrd.isAcquire || acqFenceArm sh.decrThen) = true
  uniq_acquire : (sh.uniqLoadOrd.isAcquire || acqFenceArm sh.uniqThen) = true

def OrdOk (c : Cfg) : Prop :=
  decrIsRelease c.proto = true ∧ decrAcquires c.proto = true ∧ uniqAcquires c.proto = true

theorem Ords.ofOk {c : Cfg} (sh : Shape c) (h : OrdOk c) : Ords sh := by
  obtain ⟨h1, h2, h3⟩ := h
  simp only [decrIsRelease, decrAcquires, uniqAcquires, sh.hdecr, sh.huniq] at h1 h2 h3
  exact ⟨h1, h2, h3⟩

/-- The pending (not yet fenced) view will be joined before the method returns. -/
def pendUse (th : Thread) : Bool :=
  match th.pc with
  | some pc => localAcq pc.code
  | none => false

/-- What the thread will know when its in-flight method returns. -/
def know (th : Thread) : List Nat := if pendUse th then vjoin th.view th.pend else th.view

structure Wf2 (c : Cfg) (s : State) : Prop where
  /-- a thread knows its own accesses -/
  B : ∀ (t : Nat) th, s.thr[t]? = some th → vat s.acc t ≤ vat th.view t
  /-- only existing threads access the payload -/
  N : ∀ (u : Nat), s.thr[u]? = none → vat s.acc u = 0
  /-- `K`: the payload accesses of a thread that holds neither a handle nor a reference are covered
  by the release view of the count's last message, or are known to a thread that still holds a handle -/
  K : s.freed = 0 → ∀ (u : Nat) uh, s.thr[u]? = some uh → owned uh = 0 → uh.refs = [] →
        excl uh = false →
        vat s.acc u ≤ vat s.last.rel u ∨
        ∃ (t : Nat) (th : Thread), s.thr[t]? = some th ∧ 1 ≤ owned th ∧ vat s.acc u ≤ vat th.view u
  /-- every write happens-before whatever an owner or a borrower does -/
  R : ∀ (t : Nat) th, s.thr[t]? = some th → (1 ≤ owned th ∨ th.refs ≠ []) →
        ∀ u : Nat, vat s.wr u ≤ vat th.view u
  /-- a thread with exclusive access knows (after its pending fence) every access -/
  XK : ∀ (t : Nat) th, s.thr[t]? = some th → excl th = true → ∀ u : Nat, vat s.acc u ≤ vat (know th) u
  race : s.race = false
  uaf : s.uaf = false

theorem vat_tick_le (th : Thread) (t u : Nat) : vat th.view u ≤ vat (tick th t).view u := by
  simp only [tick, vat, vat_vset]
  split
  · subst_vars; omega
  · exact Nat.le_refl _

theorem vat_acquireInto_view_le (th : Thread) (o : Ord) (r : List Nat) (u : Nat) :
    vat th.view u ≤ vat (acquireInto th o r).view u := by
  unfold acquireInto; split
  · simp only [vat, vat_vjoin]; omega
  · exact Nat.le_refl _

theorem le_know_acquireInto (th : Thread) (o : Ord) (rel : List Nat) {pc : Pc} (hpc : th.pc = some pc)
    (hacq : (o.isAcquire || localAcq pc.code) = true) (x : Nat) :
    max (vat th.view x) (vat rel x) ≤ vat (know (acquireInto th o rel)) x := by
  simp only [know, pendUse, acquireInto_pc, hpc]
  unfold acquireInto
  by_cases ha : o.isAcquire = true
  · simp only [ha, if_true]
    split <;> simp [vat] <;> omega
  · have hl : localAcq pc.code = true := by simpa [ha] using hacq
    simp [ha, hl, vat]; omega

section
variable {c : Cfg} {s : State} {t : Nat} {th : Thread}

/-- One thread record replaced.  `t` may have accessed the payload, recording its own clock
component in `acc` (then nobody else has exclusive access) and in `wr` (then nobody else can use
the buffer).  The release view of the count may grow; a thread that stops being a witness of `K`
(it gives its last handle up) must have released its view into the count (`hwit`). -/
theorem Wf2.set (h : Wf2 c s) (ht : s.thr[t]? = some th) {s' : State} {th' : Thread}
    (hthr : s'.thr = s.thr.set t th') (hfreed : s'.freed = 0 → s.freed = 0)
    (hacc : s'.acc = s.acc ∨ (s'.acc = vset s.acc t (vat th'.view t) ∧
      ∀ (u : Nat) uh, u ≠ t → s.thr[u]? = some uh → excl uh = false))
    (hwr : s'.wr = s.wr ∨ (s'.wr = vset s.wr t (vat th'.view t) ∧
      ∀ (u : Nat) uh, u ≠ t → s.thr[u]? = some uh → ¬(1 ≤ owned uh ∨ uh.refs ≠ [])))
    (hrace : s'.race = false) (huaf : s'.uaf = false)
    (hrel : ∀ u : Nat, vat s.last.rel u ≤ vat s'.last.rel u)
    (hB : vat s.acc t ≤ vat th'.view t)
    (hKt : s'.freed = 0 → owned th' = 0 → th'.refs = [] → excl th' = false →
      vat s'.acc t ≤ vat s'.last.rel t ∨
      ∃ (v : Nat) (vh : Thread), s'.thr[v]? = some vh ∧ 1 ≤ owned vh ∧ vat s'.acc t ≤ vat vh.view t)
    (hwit : s'.freed = 0 → 1 ≤ owned th →
      (1 ≤ owned th' ∧ ∀ u : Nat, vat th.view u ≤ vat th'.view u) ∨
      ∀ u : Nat, vat th.view u ≤ vat s'.last.rel u)
    (hR : (1 ≤ owned th' ∨ th'.refs ≠ []) → ∀ u : Nat, vat s'.wr u ≤ vat th'.view u)
    (hknow : excl th' = true → ∀ u : Nat, vat s'.acc u ≤ vat (know th') u) :
    Wf2 c s' := by
  have hne : ∀ u : Nat, u ≠ t → vat s'.acc u = vat s.acc u := by
    intro u hu
    rcases hacc with e | ⟨e, _⟩ <;> rw [e]
    simp only [vat, vat_vset, if_neg hu]
  refine ⟨?_, ?_, ?_, ?_, ?_, hrace, huaf⟩
  · intro u uh hu
    rw [hthr] at hu
    rcases get_set_cases ht hu with ⟨rfl, rfl⟩ | ⟨hu1, hu'⟩
    · rcases hacc with e | ⟨e, _⟩ <;> rw [e]
      · exact hB
      · simp
    · rw [hne u hu1]; exact h.B u uh hu'
  · intro u hu
    have hu' := get_set_eq_none.1 (hthr ▸ hu)
    rw [hne u fun e => by rw [e, ht] at hu'; cases hu']
    exact h.N u hu'
  · intro hf u uh hu ho hr hx
    rw [hthr] at hu
    rcases get_set_cases ht hu with ⟨rfl, rfl⟩ | ⟨hu1, hu'⟩
    · exact hKt hf ho hr hx
    · rw [hthr, hne u hu1]
      rcases h.K (hfreed hf) u uh hu' ho hr hx with hl | ⟨v, vh, hv, hvo, hvk⟩
      · exact Or.inl (Nat.le_trans hl (hrel u))
      · rcases get_cases ht hv with ⟨rfl, rfl⟩ | hvt
        · rcases hwit hf hvo with ⟨ho', hm⟩ | hm
          · exact Or.inr ⟨v, th', get_set_self ht, ho', Nat.le_trans hvk (hm u)⟩
          · exact Or.inl (Nat.le_trans hvk (hm u))
        · exact Or.inr ⟨v, vh, (List.getElem?_set_ne (Ne.symm hvt)).trans hv, hvo, hvk⟩
  · intro u uh hu ho w
    rw [hthr] at hu
    rcases get_set_cases ht hu with ⟨rfl, rfl⟩ | ⟨hu1, hu'⟩
    · exact hR ho w
    · rcases hwr with e | ⟨_, hno⟩
      · rw [e]; exact h.R u uh hu' ho w
      · exact absurd ho (hno u uh hu1 hu')
  · intro u uh hu hx w
    rw [hthr] at hu
    rcases get_set_cases ht hu with ⟨rfl, rfl⟩ | ⟨hu1, hu'⟩
    · exact hknow hx w
    · rcases hacc with e | ⟨_, hno⟩
      · rw [e]; exact h.XK u uh hu' hx w
      · rw [hno u uh hu1 hu'] at hx; cases hx

/-- A step of thread `t` that touches neither the count nor the payload (`b` is the
use-after-free flag, which an atomic load checks). -/
theorem Wf2.upd (h : Wf2 c s) (ht : s.thr[t]? = some th) {th' : Thread} {b : Bool}
    (hb : b = s.uaf ∨ (s.freed = 0 ∧ b = (s.uaf || decide (0 < s.freed))))
    (hown : owned th' = owned th) (hrefs : th'.refs = th.refs)
    (hview : ∀ u : Nat, vat th.view u ≤ vat th'.view u)
    (hexcl0 : excl th' = false → owned th = 0 → excl th = false)
    (hknow : excl th' = true → ∀ u : Nat, vat s.acc u ≤ vat (know th') u) :
    Wf2 c { s with thr := s.thr.set t th', uaf := b } := by
  have huaf : b = false := by
    rcases hb with e | ⟨hf0, e⟩
    · rw [e]; exact h.uaf
    · rw [e, h.uaf, hf0]; rfl
  refine h.set ht rfl (hfreed := id) (hacc := Or.inl rfl) (hwr := Or.inl rfl) (hrace := h.race)
    (huaf := huaf) (hrel := fun _ => Nat.le_refl _) (hB := Nat.le_trans (h.B t th ht) (hview t))
    (hKt := ?_) (hwit := fun _ ho => Or.inl ⟨by omega, hview⟩) (hR := ?_) (hknow := hknow)
  · intro hf ho hr hx
    exact (h.K hf t th ht (by omega) (hrefs ▸ hr) (hexcl0 hx (by omega))).imp id
      (exists_get_set ht fun hv => ⟨by omega, Nat.le_trans hv.2 (hview t)⟩)
  · intro ho u
    exact Nat.le_trans (h.R t th ht (by rw [← hown, ← hrefs]; exact ho) u) (hview u)

/-- When `t` holds the only handle (not lent), every payload access is known to `t` or covered
by the release view of the count's last message: nobody else holds a handle or a reference. -/
theorem Wf2.sole_owner_knows (h1 : Wf1 c s) (h : Wf2 c s) (ht : s.thr[t]? = some th)
    (ho : 1 ≤ owned th) (htot : total s = 1) (hp : th.handles = 0 ∨ pinned s t = false) (w : Nat) :
    vat s.acc w ≤ max (vat th.view w) (vat s.last.rel w) := by
  obtain ⟨hf0, _, hnox⟩ := h1.user_facts ht (Or.inl ho)
  have hle := owned_le_total s t th ht
  cases hw : s.thr[w]? with
  | none => rw [h.N w hw]; omega
  | some wh =>
    rcases get_cases ht hw with ⟨rfl, rfl⟩ | hwt
    · have := h.B _ wh ht; omega
    · have hadd := owned_add_le_total s t w th wh (Ne.symm hwt) ht hw
      have hnr : wh.refs = [] := by
        cases hr : wh.refs with
        | nil => rfl
        | cons l rest =>
          exfalso
          have hl : l ∈ wh.refs := by rw [hr]; exact List.mem_cons_self
          obtain ⟨lh, hlh, hh⟩ := h1.Rf w wh l hw hl
          rcases get_cases ht hlh with ⟨rfl, rfl⟩ | hlt
          · rcases hp with hp | hp
            · omega
            · exact not_mem_of_not_pinned hp hw hl
          · have := owned_add_le_total s l t lh th hlt hlh ht
            have := handles_le_owned lh
            omega
      rcases h.K hf0 w wh hw (by omega) hnr (hnox w wh hwt hw) with hl | ⟨v, vh, hv, hvo, hvk⟩
      · omega
      · rcases get_cases ht hv with ⟨rfl, rfl⟩ | hvt
        · omega
        · have := owned_add_le_total s t v th vh (Ne.symm hvt) ht hv
          omega

theorem Wf2.read (h1 : Wf1 c s) (h : Wf2 c s) (ht : s.thr[t]? = some th)
    (huse : 1 ≤ owned th ∨ th.refs ≠ []) {th' : Thread} (hown : owned th' = owned th)
    (hrefs : th'.refs = th.refs) (hpc : th'.pc = none)
    (hview : th'.view = (tick th t).view) :
    Wf2 c { payRead s t (tick th t).view with thr := s.thr.set t th' } := by
  obtain ⟨hf0, _, hnox⟩ := h1.user_facts ht huse
  have hmono : ∀ u : Nat, vat th.view u ≤ vat th'.view u := by
    intro u; rw [hview]; exact vat_tick_le th t u
  have hR : ∀ u : Nat, vat s.wr u ≤ vat th'.view u :=
    fun u => Nat.le_trans (h.R t th ht huse u) (hmono u)
  refine h.set ht rfl (hfreed := id) (hacc := Or.inr ⟨by rw [hview]; rfl, hnox⟩) (hwr := Or.inl rfl)
    (hrace := ?_) (huaf := ?_) (hrel := fun _ => Nat.le_refl _)
    (hB := Nat.le_trans (h.B t th ht) (hmono t)) (hKt := ?_)
    (hwit := fun _ ho => Or.inl ⟨by omega, hmono⟩) (hR := fun _ => hR) (hknow := ?_)
  · have : vleb s.wr (tick th t).view = true := (vleb_iff _ _).2 (hview ▸ hR)
    show (s.race || !vleb s.wr (tick th t).view) = false
    rw [h.race, this]; rfl
  · show (s.uaf || decide (0 < s.freed)) = false
    rw [h.uaf, hf0]; rfl
  · intro _ ho hr _
    exact absurd (huse.imp (fun h' => hown ▸ h') fun h' => hrefs ▸ h') (by simp [ho, hr])
  · intro hx
    rw [excl_idle hpc] at hx; cases hx

/-- A payload write (`f = s.freed`) or the free (`f = s.freed + 1`), by a thread with exclusive
access whose fences are done. -/
theorem Wf2.exclAccess (h1 : Wf1 c s) (h : Wf2 c s) (ht : s.thr[t]? = some th)
    (hx : excl th = true) (hpu : pendUse th = false) {f p hd : Nat} {rs : List Nat}
    (hcase : (f = s.freed ∧ hd = th.handles ∧ 1 ≤ th.handles) ∨ (f = s.freed + 1 ∧ hd = 0)) :
    Wf2 c { payWrite s t (tick th t).view with freed := f, pval := p, thr := s.thr.set t { tick { th with pc := none } t with handles := hd, res := rs } } := by
  generalize hth' : ({ tick { th with pc := none } t with handles := hd, res := rs } : Thread) = th'
  have hpc : th'.pc = none := by subst hth'; rfl
  have hview : th'.view = (tick th t).view := by subst hth'; rfl
  have hrefs : th'.refs = th.refs := by subst hth'; rfl
  have hcase : (f = s.freed ∧ owned th' = owned th ∧ 1 ≤ owned th) ∨ (f = s.freed + 1 ∧ owned th' = 0) := by
    have hown' : owned th' = hd := by subst hth'; exact owned_idle rfl
    have := handles_le_owned th
    rcases hcase with ⟨e, rfl, h1⟩ | ⟨e, rfl⟩
    · exact Or.inl ⟨e, hown'.trans (owned_of_excl hx).symm, by omega⟩
    · exact Or.inr ⟨e, hown'⟩
  obtain ⟨hoth, _, hf0⟩ := h1.X t th ht hx
  have hmono : ∀ u : Nat, vat th.view u ≤ vat th'.view u := by
    intro u; rw [hview]; exact vat_tick_le th t u
  have hknow : ∀ u : Nat, vat s.acc u ≤ vat th'.view u := by
    intro u
    have := h.XK t th ht hx u
    rw [know, hpu] at this
    exact Nat.le_trans this (hmono u)
  -- nobody else can use the buffer
  have hnouse : ∀ (u : Nat) uh, u ≠ t → s.thr[u]? = some uh → ¬(1 ≤ owned uh ∨ uh.refs ≠ []) := by
    intro u uh hne hu' ho
    rcases ho with ho | ho
    · have := (hoth u uh hne hu').1; omega
    · exact ho (h1.excl_no_refs ht hx hu')
  refine h.set ht rfl (hfreed := fun _ => hf0)
    (hacc := Or.inr ⟨by rw [hview]; rfl, fun u uh hne hu => (hoth u uh hne hu).2⟩)
    (hwr := Or.inr ⟨by rw [hview]; rfl, hnouse⟩) (hrace := ?_) (huaf := ?_)
    (hrel := fun _ => Nat.le_refl _) (hB := hknow t) (hKt := ?_) (hwit := ?_) (hR := ?_) (hknow := ?_)
  · have : vleb s.acc (tick th t).view = true := (vleb_iff _ _).2 (hview ▸ hknow)
    show (s.race || !vleb s.acc (tick th t).view) = false
    rw [h.race, this]; rfl
  · show (s.uaf || decide (0 < s.freed)) = false
    rw [h.uaf, hf0]; rfl
  · intro hf ho _ _
    have hf : f = 0 := hf
    rcases hcase with ⟨_, hown, hown1⟩ | ⟨hfr, _⟩ <;> omega
  · intro hf ho
    have hf : f = 0 := hf
    rcases hcase with ⟨_, hown, hown1⟩ | ⟨hfr, _⟩
    · exact Or.inl ⟨by omega, hmono⟩
    · omega
  · intro ho w
    show vat (vset s.wr t (vat (tick th t).view t)) w ≤ vat th'.view w
    rw [← hview]
    by_cases hw : w = t
    · subst hw; simp
    · simp only [vat, vat_vset, if_neg hw]
      rcases hcase with ⟨_, _, hown1⟩ | ⟨_, hown0⟩
      · exact Nat.le_trans (h.R _ th ht (Or.inl hown1) w) (hmono w)
      · rcases ho with ho | ho
        · omega
        · exact absurd (hrefs ▸ h1.excl_no_refs ht hx ht) ho
  · intro hxu
    rw [excl_idle hpc] at hxu; cases hxu

end

theorem Wf2.rmwSub {c : Cfg} {s : State} (h1 : Wf1 c s) (h : Wf2 c s) {t : Nat} {th : Thread}
    (ht : s.thr[t]? = some th) {code : List AStep} {old : Nat}
    (hpc : th.pc = some ⟨.drop, code, old⟩) (hcode : localRet code = none)
    (o : Ord) (code' : List AStep) (hrel : o.isRelease = true)
    (hcode' : localRet code' = some (if s.last.val = 0 then Ret.overflow else Ret.done))
    (hacq : s.last.val = 0 → (o.isAcquire || localAcq code') = true) (nv : Nat) :
    Wf2 c (doRmw s t th o nv ⟨.drop, code', s.last.val⟩) := by
  have hown : owned th = th.handles + 1 := by simp [owned, inflight, hpc, hcode]
  have huse : 1 ≤ owned th ∨ th.refs ≠ [] := Or.inl (by omega)
  obtain ⟨hf0, _, _⟩ := h1.user_facts ht huse
  have hle := owned_le_total s t th ht
  have htr := h1.track (by omega)
  have hmono := vat_acquireInto_view_le
    { th with coh := s.hist.length + 1, pc := some ⟨.drop, code', s.last.val⟩ } o s.last.rel
  -- the decrement is a release: the view of `t` goes into the count
  have hrelv : ∀ u : Nat, max (vat th.view u) (vat s.last.rel u) ≤
      vat (vjoin (if o.isRelease then th.view else []) s.last.rel) u := by
    intro u; simp [hrel]
  refine h.set ht rfl (hfreed := id) (hacc := Or.inl rfl) (hwr := Or.inl rfl) (hrace := h.race)
    (huaf := by simp [doRmw, h.uaf, hf0])
    (hrel := fun u => Nat.le_trans (Nat.le_max_right _ _) (hrelv u))
    (hB := Nat.le_trans (h.B t th ht) (hmono t)) (hKt := ?_) (hwit := ?_) (hR := ?_) (hknow := ?_)
  · intro _ _ _ _
    exact Or.inl (Nat.le_trans (Nat.le_trans (h.B t th ht) (Nat.le_max_left _ _)) (hrelv t))
  · intro _ _
    exact Or.inr fun u => Nat.le_trans (Nat.le_max_left _ _) (hrelv u)
  · intro _ u
    exact Nat.le_trans (h.R t th ht huse u) (hmono u)
  · -- `t` read `0`: it was the only owner
    intro hx w
    rw [excl_acquireInto] at hx
    have hv : s.last.val = 0 := by
      have : (localRet code' == some Ret.overflow) = true := hx
      rw [hcode'] at this
      by_cases hv : s.last.val = 0
      · exact hv
      · simp [hv] at this
    exact Nat.le_trans (h.sole_owner_knows h1 ht (by omega) (by omega) (Or.inl (by omega)) w)
      (le_know_acquireInto { th with coh := s.hist.length + 1, pc := some ⟨.drop, code', s.last.val⟩ }
        o s.last.rel rfl (hacq hv) w)

theorem Wf2.casSucc {c : Cfg} {s : State} (h1 : Wf1 c s) (h : Wf2 c s) {t : Nat} {th : Thread}
    (ht : s.thr[t]? = some th) {code : List AStep} {old : Nat}
    (hpc : th.pc = some ⟨.clone, code, old⟩) (o : Ord) (nv : Nat) :
    Wf2 c (doRmw s t th o nv ⟨.clone, [.ret .done], old⟩) := by
  have huse := uses_of_handles ((h1.pcok t th _ ht hpc).2.1 (Or.inl rfl))
  obtain ⟨hf0, _, _⟩ := h1.user_facts ht huse
  have hmono := vat_acquireInto_view_le
    { th with coh := s.hist.length + 1, pc := some ⟨.clone, [.ret .done], old⟩ } o s.last.rel
  have hown' : 1 ≤ owned (acquireInto
      { th with coh := s.hist.length + 1, pc := some ⟨.clone, [.ret .done], old⟩ } o s.last.rel) := by
    simp [owned, inflight, localRet]
  refine h.set ht rfl (hfreed := id) (hacc := Or.inl rfl) (hwr := Or.inl rfl) (hrace := h.race)
    (huaf := by simp [doRmw, h.uaf, hf0]) (hrel := fun u => by simp only [doRmw, vat, vat_vjoin]; omega)
    (hB := Nat.le_trans (h.B t th ht) (hmono t)) (hKt := ?_)
    (hwit := fun _ _ => Or.inl ⟨hown', hmono⟩) (hR := ?_) (hknow := ?_)
  · intro _ ho; omega
  · intro _ u
    exact Nat.le_trans (h.R t th ht huse u) (hmono u)
  · intro hx
    simp [excl] at hx

theorem Wf2.send {c : Cfg} {s : State} (h1 : Wf1 c s) (h : Wf2 c s) {t u : Nat} {th uh : Thread}
    (ht : s.thr[t]? = some th) (hu : s.thr[u]? = some uh) (htu : t ≠ u)
    (hpt : th.pc = none) (hpu : uh.pc = none) (hh : 1 ≤ th.handles) (k : Nat)
    (th' uh' : Thread) (hth' : { th with handles := th.handles - 1 } = th')
    (huh' : { uh with handles := uh.handles + 1, view := vjoin uh.view th.view, coh := k } = uh') :
    Wf2 c { s with thr := (s.thr.set t th').set u uh' } := by
  have hownt : owned th = th.handles := owned_idle hpt
  have hownu' : owned uh' = uh.handles + 1 := by subst huh'; exact owned_idle hpu
  have hpt' : th'.pc = none := by subst hth'; exact hpt
  have hpu' : uh'.pc = none := by subst huh'; exact hpu
  have hvt' : th'.view = th.view := by subst hth'; rfl
  have hvu' : ∀ w : Nat, vat uh'.view w = max (vat uh.view w) (vat th.view w) := by
    intro w; subst huh'; simp [vat]
  obtain ⟨hf0, _, hnox⟩ := h1.user_facts ht (Or.inl (by omega))
  obtain ⟨hst, hsu⟩ := get_set2_self (x' := th') (y' := uh') ht hu htu
  have hlook := fun (w : Nat) wh => get_set2_cases (w := w) (z := wh) (x' := th') (y' := uh') ht hu htu
  refine ⟨?_, ?_, ?_, ?_, ?_, h.race, h.uaf⟩
  · intro w wh hw
    dsimp only at hw ⊢
    rcases hlook w wh hw with ⟨rfl, rfl⟩ | ⟨rfl, rfl⟩ | ⟨_, _, hw'⟩
    · rw [hvu']; have := h.B _ uh hu; omega
    · rw [hvt']; exact h.B _ th ht
    · exact h.B w wh hw'
  · intro w hw
    dsimp only at hw ⊢
    exact h.N w (get_set_eq_none.1 (get_set_eq_none.1 hw))
  · intro hf w wh hw ho hr hx
    dsimp only at hw ⊢
    -- the receiver now knows everything the sender knew
    have hviaU : ∀ a : Nat, a ≤ vat th.view w ∨ a ≤ vat uh.view w →
        ∃ (v : Nat) (vh : Thread), ((s.thr.set t th').set u uh')[v]? = some vh ∧ 1 ≤ owned vh ∧ a ≤ vat vh.view w :=
      fun a ha => ⟨u, uh', hsu, by omega, by rw [hvu']; omega⟩
    rcases hlook w wh hw with ⟨rfl, rfl⟩ | ⟨rfl, rfl⟩ | ⟨hwt, hwu, hw'⟩
    · omega
    · exact Or.inr (hviaU _ (Or.inl (h.B _ th ht)))
    · refine (h.K hf0 w wh hw' ho hr hx).imp id ?_
      rintro ⟨v, vh, hv, hvo, hvk⟩
      rcases get_cases ht hv with ⟨rfl, rfl⟩ | hvt
      · exact hviaU _ (Or.inl hvk)
      · rcases get_cases hu hv with ⟨rfl, rfl⟩ | hvu
        · exact hviaU _ (Or.inr hvk)
        · exact ⟨v, vh, by rw [get_set2_ne hvt hvu]; exact hv, hvo, hvk⟩
  · intro w wh hw ho x
    dsimp only at hw ⊢
    rcases hlook w wh hw with ⟨rfl, rfl⟩ | ⟨rfl, rfl⟩ | ⟨_, _, hw'⟩
    · rw [hvu']
      have := h.R _ th ht (Or.inl (by omega)) x; omega
    · rw [hvt']
      exact h.R _ th ht (Or.inl (by omega)) x
    · exact h.R w wh hw' ho x
  · intro w wh hw hx x
    dsimp only at hw ⊢
    rcases hlook w wh hw with ⟨rfl, rfl⟩ | ⟨rfl, rfl⟩ | ⟨hwt, _, hw'⟩
    · rw [excl_idle hpu'] at hx; cases hx
    · rw [excl_idle hpt'] at hx; cases hx
    · rw [hnox w wh hwt hw'] at hx; cases hx

theorem Wf2.borrow {c : Cfg} {s : State} (h : Wf2 c s) {t u : Nat} {th uh : Thread}
    (ht : s.thr[t]? = some th) (hu : s.thr[u]? = some uh)
    (hpt : th.pc = none) (hh : 1 ≤ uh.handles) (k : Nat)
    (th' : Thread) (hth' : { th with refs := u :: th.refs, view := vjoin th.view uh.view, coh := k } = th') :
    Wf2 c { s with thr := s.thr.set t th' } := by
  have hown' : owned th' = owned th := by subst hth'; exact owned_congr rfl rfl
  have hpt' : th'.pc = none := by subst hth'; exact hpt
  have hv' : ∀ w : Nat, vat th'.view w = max (vat th.view w) (vat uh.view w) := by
    intro w; subst hth'; simp [vat]
  have hr' : th'.refs ≠ [] := by subst hth'; exact List.cons_ne_nil _ _
  refine h.set ht rfl (hfreed := id) (hacc := Or.inl rfl) (hwr := Or.inl rfl) (hrace := h.race)
    (huaf := h.uaf) (hrel := fun _ => Nat.le_refl _) (hB := by rw [hv']; have := h.B t th ht; omega)
    (hKt := fun _ _ hr _ => absurd hr hr')
    (hwit := fun _ _ => Or.inl ⟨by omega, fun w => by rw [hv']; omega⟩) (hR := ?_) (hknow := ?_)
  · intro _ x
    show vat s.wr x ≤ vat th'.view x
    rw [hv']
    have := h.R u uh hu (Or.inl (Nat.le_trans hh (handles_le_owned uh))) x
    omega
  · intro hx
    rw [excl_idle hpt'] at hx; cases hx

theorem Wf2.dropRef {c : Cfg} {s : State} (h : Wf2 c s) {t u : Nat} {th uh : Thread}
    (ht : s.thr[t]? = some th) (hu : s.thr[u]? = some uh) (htu : t ≠ u) (hpt : th.pc = none)
    (huo : 1 ≤ owned uh) (hview : ∀ x : Nat, vat th.view x ≤ vat uh.view x)
    (th' : Thread) (hth' : { th with refs := th.refs.erase u } = th') :
    Wf2 c { s with thr := s.thr.set t th' } := by
  have hown' : owned th' = owned th := by subst hth'; exact owned_congr rfl rfl
  have hpt' : th'.pc = none := by subst hth'; exact hpt
  have hvt' : th'.view = th.view := by subst hth'; rfl
  refine h.set ht rfl (hfreed := id) (hacc := Or.inl rfl) (hwr := Or.inl rfl) (hrace := h.race)
    (huaf := h.uaf) (hrel := fun _ => Nat.le_refl _) (hB := by rw [hvt']; exact h.B t th ht) (hKt := ?_)
    (hwit := fun _ _ => Or.inl ⟨by omega, fun w => by rw [hvt']; exact Nat.le_refl _⟩)
    (hR := ?_) (hknow := ?_)
  · intro _ _ _ _
    exact Or.inr ⟨u, uh, (List.getElem?_set_ne htu).trans hu, huo,
      Nat.le_trans (h.B t th ht) (hview t)⟩
  · intro ho x
    rw [hvt']
    refine h.R t th ht (ho.imp (fun h' => hown' ▸ h') fun h' e => h' ?_) x
    subst hth'
    show th.refs.erase u = []
    rw [e]; rfl
  · intro hx
    rw [excl_idle hpt'] at hx; cases hx

theorem Wf2.unborrow {c : Cfg} {s : State} (h1 : Wf1 c s) (h : Wf2 c s) {t u : Nat} {th uh : Thread}
    (ht : s.thr[t]? = some th) (hu : s.thr[u]? = some uh) (htu : t ≠ u)
    (hpt : th.pc = none) (hpu : uh.pc = none) (hmem : u ∈ th.refs) (k : Nat)
    (th' uh' : Thread) (hth' : { th with refs := th.refs.erase u } = th')
    (huh' : { uh with view := vjoin uh.view th.view, coh := k } = uh') :
    Wf2 c { s with thr := (s.thr.set t th').set u uh' } := by
  subst huh'
  have huown : 1 ≤ owned uh := by
    obtain ⟨uh2, huh2, hh⟩ := h1.Rf t th u ht hmem
    rw [hu] at huh2
    exact Option.some.inj huh2 ▸ Nat.le_trans hh (handles_le_owned uh2)
  have hjoin : ∀ x : Nat, vat (vjoin uh.view th.view) x = max (vat uh.view x) (vat th.view x) :=
    fun x => vat_vjoin _ _ x
  have h2 : Wf2 c { s with thr := s.thr.set u { uh with view := vjoin uh.view th.view, coh := k } } :=
    h.upd hu (hb := Or.inl rfl) (hown := owned_congr rfl rfl) (hrefs := rfl)
      (hview := fun x => by rw [hjoin]; omega) (hexcl0 := fun _ _ => excl_idle hpu)
      (hknow := not_excl_idle (th := uh) hpu)
  rw [List.set_comm _ _ htu]
  exact h2.dropRef (t := t) ((List.getElem?_set_ne (Ne.symm htu)).trans ht) (get_set_self hu) htu hpt
    ((owned_congr rfl rfl).symm ▸ huown) (fun x => by rw [hjoin]; omega) th' hth'

end HipVerif.Model.Conc
