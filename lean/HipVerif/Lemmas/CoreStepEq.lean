/-
The arms of `step`, one equation per operation, with the `let (a, b, c) := …` bindings of the
model spelled as projections and the lookup of slot `h` named (`onSlot`).  All hold by `rfl` but
`step_intoVec`, whose arm is restated through `stealVec`, the test it shares with `toVec`.
A proof enters an operation by rewriting with its equation: `simp only [step]` instantiates the
whole 34-arm definition at every call.
-/
import HipVerif.Model.Core
import HipVerif.Spec.Std

namespace HipVerif.Core
open HipVerif.RangeTy

namespace A

/-- what `slice`, `try_slice`, `slice_ref`, `try_slice_ref` and the inherited `str` methods do once
the range `a..b` is known -/
def rangeInstall (cfg : Cfg) (s : State) (hd : Handle) (d a b : Nat) (ret : Ret) : State × Out :=
  let (s1, r, ev) := rangeRepr cfg s hd a b
  if dbgFails cfg (isNormalized cfg { repr := r, tainted := hd.tainted }) then ok s .panic []
  else install s1 d r hd.tainted ret ev

/-- `let mut c = self.clone(); c.make_ascii_…(); c` with the byte map `g` -/
def asciiInstall (cfg : Cfg) (s : State) (hd : Handle) (d : Nat) (g : UInt8 → UInt8) : State × Out :=
  let (s0, r0, ev0) := cloneRepr cfg s hd
  let c : Handle := { repr := r0, tainted := hd.tainted }
  let (s1, r1, ev1) := makeUnique cfg s0 c
  let (s2, r2, ev2) := writeView s1 r1 (fun w => w.map g)
  install s2 d r2 hd.tainted .unit (ev0 ++ ev1 ++ ev2)

end A

/-- `make_unique` then a write through the unique value, stored back in slot `h`
(`to_mut_slice`, `make_ascii_*`) -/
def uniqueWrite (cfg : Cfg) (s : State) (h : Nat) (hd : Handle) (f : List UInt8 → List UInt8) : State × Out :=
  ok (setH (writeView (makeUnique cfg s hd).1 (makeUnique cfg s hd).2.1 f).1 h
      (some { hd with repr := (writeView (makeUnique cfg s hd).1 (makeUnique cfg s hd).2.1 f).2.1 })) .unit
    ((makeUnique cfg s hd).2.2 ++ (writeView (makeUnique cfg s hd).1 (makeUnique cfg s hd).2.1 f).2.2)

/-- the in-place path of `push_slice`: the sole owner truncates its Vec to the end of the view
and extends it, reallocating when the capacity is exceeded -/
def pushInPlace (cfg : Cfg) (s : State) (h : Nat) (hd : Handle) (bs : List UInt8) : Option (State × Out) :=
  match hd.repr with
  | .heap owner _ off len =>
    match getI s owner with
    | some x =>
      if ownerUnique cfg s owner then
        if (x.data.take (off + len) ++ bs).length ≤ x.cap then
          some (ok (setH (setI s owner { x with data := x.data.take (off + len) ++ bs }) h
              (some { hd with repr := .heap owner x.buf off (len + bs.length) })) .unit
            (if bs.length > 0 then [Event.write x.buf (off + len) (off + len + bs.length)] else []))
        else
          some (ok (setH (setI { s with nextBuf := s.nextBuf + 1 } owner
                { x with data := x.data.take (off + len) ++ bs,
                         cap := growCap x.cap (x.data.take (off + len) ++ bs).length, buf := s.nextBuf }) h
              (some { hd with repr := .heap owner s.nextBuf off (len + bs.length) })) .unit
            [if x.cap > 0 then Event.growBuf x.buf s.nextBuf (growCap x.cap (x.data.take (off + len) ++ bs).length)
              else Event.allocBuf s.nextBuf (growCap x.cap (x.data.take (off + len) ++ bs).length),
              Event.write s.nextBuf (off + len) (off + len + bs.length)])
      else none
    | none => none
  | _ => none

/-- the non-in-place path of `push_slice`: re-inline or re-allocate -/
def pushRealloc (cfg : Cfg) (s : State) (h : Nat) (hd : Handle) (bs : List UInt8) : State × Out :=
  if hlen hd + bs.length ≤ cfg.icap then
    ok (setH (if isInline hd = true then (s, []) else dropRepr cfg s hd.repr).1 h
        (some { hd with repr := .inline (view s hd ++ bs) }))
      .unit (if isInline hd = true then (s, []) else dropRepr cfg s hd.repr).2
  else
    ok (setH (dropRepr cfg (newHeap s (view s hd ++ bs) (hlen hd + bs.length)).1 hd.repr).1 h
        (some { hd with repr := (newHeap s (view s hd ++ bs) (hlen hd + bs.length)).2.1 }))
      .unit ((newHeap s (view s hd ++ bs) (hlen hd + bs.length)).2.2 ++
        (dropRepr cfg (newHeap s (view s hd ++ bs) (hlen hd + bs.length)).1 hd.repr).2)

/-- `try_into_vec`: the sole owner at offset 0 gives its Vec away -/
def stealVec (cfg : Cfg) (s : State) (h : Nat) (hd : Handle) : Option (State × Out) :=
  match hd.repr with
  | .heap owner _ off len =>
    match getI s owner with
    | some x =>
      if off == 0 && ownerUnique cfg s owner then
        some (ok (setH (setI s owner { x with live := false }) h none) (.bytes (x.data.take len))
          (Event.freeInner owner :: (if x.cap > 0 then [Event.exportBuf x.buf] else [])))
      else none
    | none => none
  | _ => none

def onSlot (s : State) (h : Nat) (f : Handle → State × Out) : State × Out :=
  match getH s h with
  | some hd => f hd
  | none => ok s .badOp []

variable {cfg : Cfg} {s : State}

theorem onSlot_some {h : Nat} {hd : Handle} (hg : getH s h = some hd) (f : Handle → State × Out) :
    onSlot s h f = f hd := by
  unfold onSlot; rw [hg]

theorem onSlot_congr {h : Nat} {f g : Handle → State × Out} (k : ∀ hd, getH s h = some hd → f hd = g hd) :
    onSlot s h f = onSlot s h g := by
  unfold onSlot
  cases hg : getH s h with
  | none => rfl
  | some hd => exact k hd hg

theorem step_new (d : Nat) : step cfg s (.new d) =
    if slotFree s d then install s d (.inline []) false .unit [] else ok s .badOp [] := rfl

theorem step_fromSlice (d : Nat) (bs : List UInt8) : step cfg s (.fromSlice d bs) =
    if slotFree s d then
      install (fromSliceRepr cfg s bs).1 d (fromSliceRepr cfg s bs).2.1 false .unit (fromSliceRepr cfg s bs).2.2
    else ok s .badOp [] := rfl

theorem step_fromVec (d : Nat) (bs : List UInt8) (cap : Nat) : step cfg s (.fromVec d bs cap) =
    if slotFree s d && decide (bs.length ≤ cap) then
      install (fromVecRepr cfg { s with nextBuf := s.nextBuf + 1 } bs cap s.nextBuf).1 d
        (fromVecRepr cfg { s with nextBuf := s.nextBuf + 1 } bs cap s.nextBuf).2.1 false .unit
        ((if cap > 0 then [Event.importBuf s.nextBuf cap] else []) ++
          (fromVecRepr cfg { s with nextBuf := s.nextBuf + 1 } bs cap s.nextBuf).2.2)
    else ok s .badOp [] := rfl

theorem step_borrowed (d src off len : Nat) : step cfg s (.borrowed d src off len) =
    if slotFree s d && decide (off + len ≤ (s.srcs[src]?.getD []).length) && decide (src < s.srcs.length) then
      install s d (.borrowed src off len) false .unit []
    else ok s .badOp [] := rfl

theorem step_withCapacity (d n : Nat) : step cfg s (.withCapacity d n) =
    if slotFree s d then
      if n ≤ cfg.icap then install s d (.inline []) false .unit []
      else install (newHeap s [] n).1 d (newHeap s [] n).2.1 true .unit (newHeap s [] n).2.2
    else ok s .badOp [] := rfl

theorem step_inline (d : Nat) (bs : List UInt8) : step cfg s (.inline d bs) =
    if slotFree s d then
      if bs.length ≤ cfg.icap then install s d (.inline bs) false .unit [] else ok s .panic []
    else ok s .badOp [] := rfl

theorem step_tryInline (d : Nat) (bs : List UInt8) : step cfg s (.tryInline d bs) =
    if slotFree s d then
      if bs.length ≤ cfg.icap then install s d (.inline bs) false (.bool true) [] else ok s (.bool false) []
    else ok s .badOp [] := rfl

theorem step_clone (h d : Nat) : step cfg s (.clone h d) =
    onSlot s h fun hd =>
      if slotFree s d then
        install (cloneRepr cfg s hd).1 d (cloneRepr cfg s hd).2.1 hd.tainted .unit (cloneRepr cfg s hd).2.2
      else ok s .badOp [] := rfl

theorem step_slice (h d : Nat) (sb eb : Bound) : step cfg s (.slice h d sb eb) =
    onSlot s h fun hd =>
      if slotFree s d then
        match Gen.Ranges.simplifyRangeMono sb eb (hlen hd) with
        | .ok (a, b) => A.rangeInstall cfg s hd d a b .unit
        | _ => ok s .panic []
      else ok s .badOp [] := rfl

theorem step_trySlice (h d : Nat) (sb eb : Bound) : step cfg s (.trySlice h d sb eb) =
    onSlot s h fun hd =>
      if slotFree s d then
        match Gen.Ranges.simplifyRangeMono sb eb (hlen hd) with
        | .ok (a, b) => A.rangeInstall cfg s hd d a b (.bool true)
        | .err (a, b, k) => ok s (.sliceErr a b k) []
        | _ => ok s .panic []
      else ok s .badOp [] := rfl

theorem step_trySliceRef (h d : Nat) (relNeg : Bool) (rel plen : Nat) : step cfg s (.trySliceRef h d relNeg rel plen) =
    onSlot s h fun hd =>
      if slotFree s d then
        match Gen.Ranges.tryRangeOf ⟨rel + 1, hlen hd⟩ ⟨if relNeg then rel + 1 - rel else rel + 1 + rel, plen⟩ with
        | .ok (some (a, b)) => A.rangeInstall cfg s hd d a b (.bool true)
        | .ok none => ok s (.bool false) []
        | _ => ok s .panic []
      else ok s .badOp [] := rfl

theorem step_sliceRef (h d : Nat) (relNeg : Bool) (rel plen : Nat) : step cfg s (.sliceRef h d relNeg rel plen) =
    onSlot s h fun hd =>
      if slotFree s d then
        match Gen.Ranges.tryRangeOf ⟨rel + 1, hlen hd⟩ ⟨if relNeg then rel + 1 - rel else rel + 1 + rel, plen⟩ with
        | .ok (some (a, b)) => A.rangeInstall cfg s hd d a b .unit
        | _ => ok s .panic []
      else ok s .badOp [] := rfl

theorem step_adopt (h d off len : Nat) : step cfg s (.adopt h d off len) =
    onSlot s h fun hd =>
      if slotFree s d && decide (off + len ≤ hlen hd) then A.rangeInstall cfg s hd d off (off + len) .unit
      else ok s .badOp [] := rfl

theorem step_pushSlice (h : Nat) (bs : List UInt8) : step cfg s (.pushSlice h bs) =
    onSlot s h fun hd =>
      match pushInPlace cfg s h hd bs with
      | some r => r
      | none => pushRealloc cfg s h hd bs := rfl

theorem step_pop (h : Nat) : step cfg s (.pop h) =
    onSlot s h fun hd =>
      if (view s hd).length = 0 then ok s (.optByte none) []
      else truncateOp cfg s h hd ((view s hd).length - 1) (.optByte (view s hd).getLast?) := rfl

theorem step_truncate (h n : Nat) : step cfg s (.truncate h n) =
    onSlot s h fun hd => truncateOp cfg s h hd n .unit := rfl

theorem step_clear (h : Nat) : step cfg s (.clear h) =
    onSlot s h fun hd => truncateOp cfg s h hd 0 .unit := rfl

theorem step_shrinkTo (h n : Nat) : step cfg s (.shrinkTo h n) =
    onSlot s h fun hd => shrinkToOp cfg s h hd n := rfl

theorem step_shrinkToFit (h : Nat) : step cfg s (.shrinkToFit h) =
    onSlot s h fun hd => shrinkToOp cfg s h hd (hlen hd) := rfl

theorem step_asMutWrite (h i : Nat) (b : UInt8) : step cfg s (.asMutWrite h i b) =
    onSlot s h fun hd =>
      if (match hd.repr with
          | .inline _ => true
          | .borrowed .. => false
          | .heap owner _ _ _ => ownerUnique cfg s owner) then
        if i < hlen hd then
          ok (setH (writeView s hd.repr (fun w => setAt w i b)).1 h
              (some { hd with repr := (writeView s hd.repr (fun w => setAt w i b)).2.1 })) (.bool true)
            (writeView s hd.repr (fun w => setAt w i b)).2.2
        else ok s (.bool true) []
      else ok s (.bool false) [] := rfl

theorem step_toMutWrite (h i : Nat) (b : UInt8) : step cfg s (.toMutWrite h i b) =
    onSlot s h fun hd =>
      if i < hlen hd then uniqueWrite cfg s h hd (fun w => setAt w i b)
      else ok (setH (makeUnique cfg s hd).1 h (some { hd with repr := (makeUnique cfg s hd).2.1 })) .unit
        (makeUnique cfg s hd).2.2 := rfl

theorem step_makeAsciiLower (h : Nat) : step cfg s (.makeAsciiLower h) =
    onSlot s h fun hd => uniqueWrite cfg s h hd (fun w => w.map asciiLower) := rfl

theorem step_makeAsciiUpper (h : Nat) : step cfg s (.makeAsciiUpper h) =
    onSlot s h fun hd => uniqueWrite cfg s h hd (fun w => w.map asciiUpper) := rfl

theorem step_toAsciiLower (h d : Nat) : step cfg s (.toAsciiLower h d) =
    onSlot s h fun hd => if slotFree s d then A.asciiInstall cfg s hd d asciiLower else ok s .badOp [] := rfl

theorem step_toAsciiUpper (h d : Nat) : step cfg s (.toAsciiUpper h d) =
    onSlot s h fun hd => if slotFree s d then A.asciiInstall cfg s hd d asciiUpper else ok s .badOp [] := rfl

theorem step_mutate (h : Nat) (script : List VecOp) : step cfg s (.mutate h script) =
    onSlot s h fun hd =>
      let T := takeVec cfg s h hd
      let V := vecApply T.2.1.1 T.2.1.2.1 T.2.1.2.2 T.1.nextBuf script
      let F := fromVecRepr cfg { T.1 with nextBuf := V.2.2.2.1 } V.1 V.2.1 V.2.2.1
      ok (setH F.1 h (some { hd with repr := F.2.1 })) .unit (T.2.2 ++ V.2.2.2.2 ++ F.2.2) := rfl

theorem step_mutateLeak (h : Nat) (script : List VecOp) : step cfg s (.mutateLeak h script) =
    onSlot s h fun hd =>
      let T := takeVec cfg s h hd
      let V := vecApply T.2.1.1 T.2.1.2.1 T.2.1.2.2 T.1.nextBuf script
      ok { T.1 with nextBuf := V.2.2.2.1 } .unit
        (T.2.2 ++ V.2.2.2.2 ++ (if V.2.1 > 0 then [Event.exportBuf V.2.2.1] else [])) := rfl

theorem step_intoOwned (h d : Nat) : step cfg s (.intoOwned h d) =
    onSlot s h fun hd =>
      if slotFree s d then
        match hd.repr with
        | .borrowed _ _ _ =>
          install (setH (fromSliceRepr cfg s (view s hd)).1 h none) d (fromSliceRepr cfg s (view s hd)).2.1
            hd.tainted .unit (fromSliceRepr cfg s (view s hd)).2.2
        | r => install (setH s h none) d r hd.tainted .unit []
      else ok s .badOp [] := rfl

theorem step_intoVec (h : Nat) : step cfg s (.intoVec h) =
    onSlot s h fun hd =>
      match stealVec cfg s h hd with
      | some r => r
      | none => ok s (.bool false) [] := by
  have lit : step cfg s (.intoVec h) =
      match getH s h with
      | some hd =>
        match hd.repr with
        | .heap owner _ off len =>
          match getI s owner with
          | some x =>
            if off == 0 && ownerUnique cfg s owner then
              ok (setH (setI s owner { x with live := false }) h none) (.bytes (x.data.take len))
                (Event.freeInner owner :: (if x.cap > 0 then [Event.exportBuf x.buf] else []))
            else ok s (.bool false) []
          | none => ok s (.bool false) []
        | _ => ok s (.bool false) []
      | none => ok s .badOp [] := rfl
  rw [lit]
  unfold onSlot
  cases getH s h with
  | none => rfl
  | some hd =>
    simp only [stealVec]
    cases hd.repr with
    | inline bs => rfl
    | borrowed a b c => rfl
    | heap o pb off len =>
      simp only
      cases getI s o with
      | none => rfl
      | some x => simp only; split <;> rfl

theorem step_toVec (h : Nat) : step cfg s (.toVec h) =
    onSlot s h fun hd =>
      match stealVec cfg s h hd with
      | some r => r
      | none =>
        ok (setH (dropRepr cfg { s with nextBuf := s.nextBuf + 1 } hd.repr).1 h none) (.bytes (view s hd))
          ((if (view s hd).length > 0 then
              [Event.allocBuf s.nextBuf (view s hd).length, Event.write s.nextBuf 0 (view s hd).length,
                Event.exportBuf s.nextBuf] else []) ++
            (dropRepr cfg { s with nextBuf := s.nextBuf + 1 } hd.repr).2) := rfl

theorem step_intoBorrowed (h : Nat) : step cfg s (.intoBorrowed h) =
    onSlot s h fun hd =>
      match hd.repr with
      | .borrowed _ _ _ => ok (setH s h none) (.bytes (view s hd)) []
      | _ => ok s (.bool false) [] := rfl

theorem step_repeat (h d n : Nat) : step cfg s (.repeat h d n) =
    onSlot s h fun hd =>
      if slotFree s d then
        if hlen hd = 0 || n = 1 then
          install (cloneRepr cfg s hd).1 d (cloneRepr cfg s hd).2.1 hd.tainted .unit (cloneRepr cfg s hd).2.2
        else if hlen hd * n < U / 2 then
          if hlen hd * n ≤ cfg.icap then install s d (.inline (List.replicate n (view s hd)).flatten) false .unit []
          else
            install (newHeap s (List.replicate n (view s hd)).flatten (hlen hd * n)).1 d
              (newHeap s (List.replicate n (view s hd)).flatten (hlen hd * n)).2.1 false .unit
              (newHeap s (List.replicate n (view s hd)).flatten (hlen hd * n)).2.2
        else ok s .panic []
      else ok s .badOp [] := rfl

theorem step_spareCapacity (h : Nat) : step cfg s (.spareCapacity h) =
    onSlot s h fun hd =>
      match hd.repr with
      | .inline bs => ok s (.nat (cfg.icap - bs.length)) []
      | .borrowed .. => ok s (.nat 0) []
      | .heap owner _ off len =>
        match getI s owner with
        | some x =>
          if ownerUnique cfg s owner then
            ok (setI s owner { x with data := x.data.take (off + len) }) (.nat (x.cap - (off + len))) []
          else ok s (.nat 0) []
        | none => ok s (.nat 0) [] := rfl

theorem step_drop (h : Nat) : step cfg s (.drop h) =
    onSlot s h fun hd => ok (setH (dropRepr cfg s hd.repr).1 h none) .unit (dropRepr cfg s hd.repr).2 := rfl

end HipVerif.Core

/-! The same for the arms of the specification. -/

namespace HipVerif.Spec.Std
open HipVerif.Core HipVerif.RangeTy HipVerif.Spec.Range

def sOnSlot (p : SPool) (h : Nat) (q : List UInt8 → SPool × Ret) : SPool × Ret :=
  match sget p h with
  | some v => q v
  | none => (p, .badOp)

variable {icap : Nat} {srcs : List (List UInt8)} {p : SPool} {flag : Bool}

theorem spec_new (d : Nat) : Spec.Std.step icap srcs p (.new d) flag =
    if sfree p d then (p.set d (some []), .unit) else (p, .badOp) := rfl

theorem spec_fromSlice (d : Nat) (bs : List UInt8) : Spec.Std.step icap srcs p (.fromSlice d bs) flag =
    if sfree p d then (p.set d (some bs), .unit) else (p, .badOp) := rfl

theorem spec_fromVec (d : Nat) (bs : List UInt8) (cap : Nat) : Spec.Std.step icap srcs p (.fromVec d bs cap) flag =
    if sfree p d && decide (bs.length ≤ cap) then (p.set d (some bs), .unit) else (p, .badOp) := rfl

theorem spec_borrowed (d src off len : Nat) : Spec.Std.step icap srcs p (.borrowed d src off len) flag =
    if sfree p d && decide (off + len ≤ (srcs[src]?.getD []).length) && decide (src < srcs.length) then
      (p.set d (some (((srcs[src]?.getD []).drop off).take len)), .unit)
    else (p, .badOp) := rfl

theorem spec_withCapacity (d n : Nat) : Spec.Std.step icap srcs p (.withCapacity d n) flag =
    if sfree p d then (p.set d (some []), .unit) else (p, .badOp) := rfl

theorem spec_inline (d : Nat) (bs : List UInt8) : Spec.Std.step icap srcs p (.inline d bs) flag =
    if sfree p d then (if bs.length ≤ icap then (p.set d (some bs), .unit) else (p, .panic)) else (p, .badOp) := rfl

theorem spec_tryInline (d : Nat) (bs : List UInt8) : Spec.Std.step icap srcs p (.tryInline d bs) flag =
    if sfree p d then
      (if bs.length ≤ icap then (p.set d (some bs), .bool true) else (p, .bool false))
    else (p, .badOp) := rfl

theorem spec_clone (h d : Nat) : Spec.Std.step icap srcs p (.clone h d) flag =
    sOnSlot p h fun v => if sfree p d then (p.set d (some v), .unit) else (p, .badOp) := rfl

theorem spec_slice (h d : Nat) (sb eb : Bound) : Spec.Std.step icap srcs p (.slice h d sb eb) flag =
    sOnSlot p h fun v =>
      if sfree p d then
        match stdGet sb eb v.length with
        | some (a, b) => (p.set d (some ((v.drop a).take (b - a))), .unit)
        | none => (p, .panic)
      else (p, .badOp) := rfl

theorem spec_trySlice (h d : Nat) (sb eb : Bound) : Spec.Std.step icap srcs p (.trySlice h d sb eb) flag =
    sOnSlot p h fun v =>
      if sfree p d then
        match stdGet sb eb v.length with
        | some (a, b) => (p.set d (some ((v.drop a).take (b - a))), .bool true)
        | none => (p, sliceErrOf sb eb v.length)
      else (p, .badOp) := rfl

theorem spec_trySliceRef (h d : Nat) (relNeg : Bool) (rel plen : Nat) : Spec.Std.step icap srcs p (.trySliceRef h d relNeg rel plen) flag =
    sOnSlot p h fun v =>
      if sfree p d then
        if (!relNeg || rel == 0) && decide (rel + plen ≤ v.length) then
          (p.set d (some ((v.drop rel).take plen)), .bool true)
        else (p, .bool false)
      else (p, .badOp) := rfl

theorem spec_sliceRef (h d : Nat) (relNeg : Bool) (rel plen : Nat) : Spec.Std.step icap srcs p (.sliceRef h d relNeg rel plen) flag =
    sOnSlot p h fun v =>
      if sfree p d then
        if (!relNeg || rel == 0) && decide (rel + plen ≤ v.length) then
          (p.set d (some ((v.drop rel).take plen)), .unit)
        else (p, .panic)
      else (p, .badOp) := rfl

theorem spec_adopt (h d off len : Nat) : Spec.Std.step icap srcs p (.adopt h d off len) flag =
    sOnSlot p h fun v =>
      if sfree p d && decide (off + len ≤ v.length) then (p.set d (some ((v.drop off).take len)), .unit)
      else (p, .badOp) := rfl

theorem spec_pushSlice (h : Nat) (bs : List UInt8) : Spec.Std.step icap srcs p (.pushSlice h bs) flag =
    sOnSlot p h fun v => (p.set h (some (v ++ bs)), .unit) := rfl

theorem spec_pop (h : Nat) : Spec.Std.step icap srcs p (.pop h) flag =
    sOnSlot p h fun v => if v.length = 0 then (p, .optByte none) else (p.set h (some v.dropLast), .optByte v.getLast?) := rfl

theorem spec_truncate (h n : Nat) : Spec.Std.step icap srcs p (.truncate h n) flag =
    sOnSlot p h fun v => (p.set h (some (v.take n)), .unit) := rfl

theorem spec_clear (h : Nat) : Spec.Std.step icap srcs p (.clear h) flag =
    sOnSlot p h fun _ => (p.set h (some []), .unit) := rfl

theorem spec_shrinkTo (h n : Nat) : Spec.Std.step icap srcs p (.shrinkTo h n) flag =
    sOnSlot p h fun _ => (p, .unit) := rfl

theorem spec_shrinkToFit (h : Nat) : Spec.Std.step icap srcs p (.shrinkToFit h) flag =
    sOnSlot p h fun _ => (p, .unit) := rfl

theorem spec_asMutWrite (h i : Nat) (b : UInt8) : Spec.Std.step icap srcs p (.asMutWrite h i b) flag =
    sOnSlot p h fun v => if flag then (p.set h (some (v.set i b)), .bool true) else (p, .bool false) := rfl

theorem spec_toMutWrite (h i : Nat) (b : UInt8) : Spec.Std.step icap srcs p (.toMutWrite h i b) flag =
    sOnSlot p h fun v => (p.set h (some (v.set i b)), .unit) := rfl

theorem spec_makeAsciiLower (h : Nat) : Spec.Std.step icap srcs p (.makeAsciiLower h) flag =
    sOnSlot p h fun v => (p.set h (some (v.map asciiLower)), .unit) := rfl

theorem spec_makeAsciiUpper (h : Nat) : Spec.Std.step icap srcs p (.makeAsciiUpper h) flag =
    sOnSlot p h fun v => (p.set h (some (v.map asciiUpper)), .unit) := rfl

theorem spec_toAsciiLower (h d : Nat) : Spec.Std.step icap srcs p (.toAsciiLower h d) flag =
    sOnSlot p h fun v => if sfree p d then (p.set d (some (v.map asciiLower)), .unit) else (p, .badOp) := rfl

theorem spec_toAsciiUpper (h d : Nat) : Spec.Std.step icap srcs p (.toAsciiUpper h d) flag =
    sOnSlot p h fun v => if sfree p d then (p.set d (some (v.map asciiUpper)), .unit) else (p, .badOp) := rfl

theorem spec_mutate (h : Nat) (script : List VecOp) : Spec.Std.step icap srcs p (.mutate h script) flag =
    sOnSlot p h fun v => (p.set h (some (script.foldl applyVecOp v)), .unit) := rfl

theorem spec_mutateLeak (h : Nat) (script : List VecOp) : Spec.Std.step icap srcs p (.mutateLeak h script) flag =
    sOnSlot p h fun _ => (p.set h (some []), .unit) := rfl

theorem spec_intoOwned (h d : Nat) : Spec.Std.step icap srcs p (.intoOwned h d) flag =
    sOnSlot p h fun v => if sfree p d then ((p.set h none).set d (some v), .unit) else (p, .badOp) := rfl

theorem spec_intoVec (h : Nat) : Spec.Std.step icap srcs p (.intoVec h) flag =
    sOnSlot p h fun v => if flag then (p.set h none, .bytes v) else (p, .bool false) := rfl

theorem spec_toVec (h : Nat) : Spec.Std.step icap srcs p (.toVec h) flag =
    sOnSlot p h fun v => (p.set h none, .bytes v) := rfl

theorem spec_intoBorrowed (h : Nat) : Spec.Std.step icap srcs p (.intoBorrowed h) flag =
    sOnSlot p h fun v => if flag then (p.set h none, .bytes v) else (p, .bool false) := rfl

theorem spec_repeat (h d n : Nat) : Spec.Std.step icap srcs p (.repeat h d n) flag =
    sOnSlot p h fun v =>
      if sfree p d then
        if v.length = 0 || n = 1 then (p.set d (some v), .unit)
        else if v.length * n < U / 2 then (p.set d (some (List.replicate n v).flatten), .unit)
        else (p, .panic)
      else (p, .badOp) := rfl

theorem spec_spareCapacity (h : Nat) : Spec.Std.step icap srcs p (.spareCapacity h) flag =
    sOnSlot p h fun _ => (p, .nat 0) := rfl

theorem spec_drop (h : Nat) : Spec.Std.step icap srcs p (.drop h) flag =
    sOnSlot p h fun _ => (p.set h none, .unit) := rfl

end HipVerif.Spec.Std
