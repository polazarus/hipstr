/-
The L0 slot model (C14/C15): accounting of owned ids (`Acct`) and how each memory primitive acts
on it; the ownership invariant `OwnL` = view of the slots (`LocalVec`) + header invariant +
accounting, with the primitives lifted to it.
-/
import HipVerif.Lemmas.SlotsVec
namespace HipVerif.Slots

variable {fl : Bool}

def NoBad (m : Mem) : Prop := ∀ e ∈ m.trace, e.bad = false

/-- the id that leaves through an event: `Drop::drop` ran on it or it was handed to the caller -/
def Ev.outId : Ev → Option Nat
  | .drop a => some a
  | .ret a => some a
  | _ => none

def Ev.newId : Ev → Option Nat
  | .mk a => some a
  | .clone _ b => some b
  | _ => none

theorem NoBad.cons {m : Mem} (h : NoBad m) {e : Ev} (he : e.bad = false) :
    ∀ e' ∈ e :: m.trace, e'.bad = false := by
  intro e' he'
  rcases List.mem_cons.mp he' with rfl | he'
  · exact he
  · exact h e' he'

theorem created_cons {tr : List Ev} {e0 : Ev} {n n' : Nat}
    (h : ∀ e ∈ tr, ∀ a, e.newId = some a → a < n) (h0 : ∀ a, e0.newId = some a → a < n')
    (hn : n ≤ n') : ∀ e ∈ e0 :: tr, ∀ a, e.newId = some a → a < n' := by
  intro e he a ha
  rcases List.mem_cons.mp he with rfl | he
  · exact h0 a ha
  · exact Nat.lt_of_lt_of_le (h e he a ha) hn

theorem filterMap_outId_none {e : Ev} (tr : List Ev) (h : e.outId = none) :
    (e :: tr).filterMap Ev.outId = tr.filterMap Ev.outId := by
  simp [h]

/-- `l` = ids currently owned by somebody inside the operation (container slots below `len`,
iterator ranges, locals), `B` = buffers owned. Each owned id is live (not out), known (`< next`)
and owned once; the monitor has seen no violation so far; nothing went out twice. -/
structure Acct (fl : Bool) (m : Mem) (l : List Nat) (B : List Nat) : Prop where
  nobad : NoBad m
  nodup : l.Nodup
  lt : ∀ a ∈ l, a < m.next
  notout : ∀ a ∈ l, a ∉ m.out
  outnd : m.out.Nodup
  outlt : ∀ a ∈ m.out, a < m.next
  bnodup : B.Nodup
  blive : ∀ b ∈ B, b ∈ m.bufs
  blt : ∀ b ∈ m.bufs, b < m.nextBuf
  bufsnd : m.bufs.Nodup
  /-- `out` is exactly the list of ids of the drop/return events of the trace -/
  trout : m.trace.filterMap Ev.outId = m.out
  /-- every id created by an event of the trace is below the fresh-id counter -/
  created : ∀ e ∈ m.trace, ∀ a, e.newId = some a → a < m.next
  /-- the no-leak clause, carried when the flag is set: no fault is armed and every id created so
  far is still owned or already out -/
  full : fl = true → m.budget = none ∧ ∀ a, a < m.next → a ∈ l ∨ a ∈ m.out

theorem Acct.weaken {m l B l'} (h : Acct fl m l B) (hn : l'.Nodup) (hs : ∀ a ∈ l', a ∈ l)
    (hf : fl = true → ∀ a ∈ l, a ∈ l') : Acct fl m l' B :=
  { h with nodup := hn, lt := fun a ha => h.lt a (hs a ha),
           notout := fun a ha => h.notout a (hs a ha),
           full := fun hfl => ⟨(h.full hfl).1, fun a ha =>
             ((h.full hfl).2 a ha).imp (hf hfl a) id⟩ }

theorem Acct.perm {m l B l'} (h : Acct fl m l B) (hp : l'.Perm l) : Acct fl m l' B :=
  h.weaken (hp.nodup_iff.mpr h.nodup) (fun _ ha => hp.mem_iff.mp ha)
    (fun _ _ ha => hp.mem_iff.mpr ha)

theorem Acct.weakenB {m l B B'} (h : Acct fl m l B) (hn : B'.Nodup) (hs : ∀ b ∈ B', b ∈ B) :
    Acct fl m l B' :=
  { h with bnodup := hn, blive := fun b hb => h.blive b (hs b hb) }

theorem Acct.permB {m l B B'} (h : Acct fl m l B) (hp : B'.Perm B) : Acct fl m l B' :=
  h.weakenB (hp.nodup_iff.mpr h.bnodup) (fun _ hb => hp.mem_iff.mp hb)

theorem Acct.toFalse {m l B} (h : Acct fl m l B) : Acct false m l B :=
  { h with full := fun hf => by cases hf }

theorem Acct.budget_none {m l B} (h : Acct fl m l B) (hf : fl = true) : m.budget = none :=
  (h.full hf).1

theorem Acct.drop_left {m l₁ l₂ B} (h : Acct fl m (l₁ ++ l₂) B) (hnf : fl = true → False) :
    Acct fl m l₂ B :=
  h.weaken (List.nodup_append.mp h.nodup).2.1 (fun _ ha => List.mem_append_right _ ha)
    (fun hf => (hnf hf).elim)

theorem Acct.count_out_le_one {m l B} (h : Acct fl m l B) (a : Nat) :
    (m.trace.filterMap Ev.outId).count a ≤ 1 := by
  rw [h.trout]; exact List.nodup_iff_count.mp h.outnd a

theorem Acct.count_out_eq_one {m l B} (h : Acct fl m l B) {a : Nat} (ha : a ∈ m.out) :
    (m.trace.filterMap Ev.outId).count a = 1 := by
  rw [h.trout, h.outnd.count, if_pos ha]

theorem Acct.setBudget {m l B} (h : Acct fl m l B) (c : Nat) (k : Option Nat)
    (hk : fl = true → k = none) : Acct fl { m with calls := c, budget := k } l B :=
  { h with full := fun hf => ⟨hk hf, (h.full hf).2⟩ }

theorem Mem.tick_of_none {m : Mem} (h : m.budget = none) :
    m.tick.1 = false ∧ m.tick.2.budget = none := by
  unfold Mem.tick; rw [h]; exact ⟨rfl, rfl⟩

theorem Acct.tick {m l B} (h : Acct fl m l B) : Acct fl m.tick.2 l B := by
  unfold Mem.tick
  split
  · exact h.setBudget _ _ h.budget_none
  · exact h.setBudget _ none (fun _ => rfl)
  · next hb => exact h.setBudget _ _ (fun hf => by rw [h.budget_none hf] at hb; cases hb)

theorem Acct.fresh {m l B} (h : Acct fl m l B) (e : Ev) (he : e.bad = false)
    (ho : e.outId = none) (hn : ∀ a, e.newId = some a → a = m.next) :
    Acct fl { m with next := m.next + 1, trace := e :: m.trace } (m.next :: l) B :=
  { h with
    nobad := h.nobad.cons he
    nodup := List.nodup_cons.mpr ⟨fun hm => Nat.lt_irrefl _ (h.lt _ hm), h.nodup⟩
    lt := fun a ha => by
      rcases List.mem_cons.mp ha with rfl | ha
      · exact Nat.lt_succ_self _
      · exact Nat.lt_succ_of_lt (h.lt a ha)
    notout := fun a ha => by
      rcases List.mem_cons.mp ha with rfl | ha
      · exact fun hm => Nat.lt_irrefl _ (h.outlt _ hm)
      · exact h.notout a ha
    outlt := fun a ha => Nat.lt_succ_of_lt (h.outlt a ha)
    trout := (filterMap_outId_none _ ho).trans h.trout
    created := created_cons h.created (fun a ha => hn a ha ▸ Nat.lt_succ_self _) (Nat.le_succ _)
    full := fun hf => ⟨(h.full hf).1, fun a ha => by
      by_cases hlt : a < m.next
      · exact ((h.full hf).2 a hlt).imp (List.mem_cons_of_mem _) id
      · exact Or.inl (by rw [show a = m.next from Nat.le_antisymm (Nat.le_of_lt_succ ha)
            (Nat.le_of_not_lt hlt)]; exact List.mem_cons_self ..)⟩ }

theorem Acct.mkVal {m l B} (h : Acct fl m l B) : Acct fl m.mkVal.2 (m.mkVal.1 :: l) B :=
  h.fresh (.mk m.next) rfl rfl (fun _ ha => (Option.some.inj ha).symm)

@[simp] theorem Mem.mkVal_fst (m : Mem) : m.mkVal.1 = m.next := rfl

/-- The common shape of `Mem.genVal` (`src = none`: a generator, `Iterator::next`,
`Default::default`) and `Mem.cloneId x` (`src = some x`): the callback may panic; otherwise the
new value gets the fresh id `next`. -/
def Mem.produce (src : Option Nat) (m : Mem) : Option Nat × Mem :=
  let (p, m) := m.tick
  if p then (none, m)
  else (some m.next, { m with next := m.next + 1,
                              trace := (match src with
                                | none => .mk m.next
                                | some x => .clone x m.next) :: m.trace })

theorem Mem.cloneId_eq (x : Nat) : Mem.cloneId x = Mem.produce (some x) := rfl

theorem Acct.produce {m l B} (src : Option Nat) (h : Acct fl m l B) :
    match m.produce src with
    | (none, m') => Acct fl m' l B
    | (some a, m') => Acct fl m' (a :: l) B := by
  unfold Mem.produce
  have ht := h.tick
  generalize m.tick = r at ht
  obtain ⟨p, m1⟩ := r
  cases p
  · exact ht.fresh _ (by cases src <;> rfl) (by cases src <;> rfl)
      (fun _ ha => by cases src <;> exact (Option.some.inj ha).symm)
  · exact ht

theorem Acct.out_step {m l B a} (e : Ev) (he : e.bad = false) (ho : e.outId = some a)
    (h : Acct fl m (a :: l) B) :
    Acct fl { m with out := a :: m.out, trace := e :: m.trace } l B := by
  have hnd := List.nodup_cons.mp h.nodup
  exact { h with
    nobad := h.nobad.cons he
    nodup := hnd.2
    lt := fun b hb => h.lt b (List.mem_cons_of_mem _ hb)
    notout := fun b hb hm => by
      rcases List.mem_cons.mp hm with rfl | hm
      · exact hnd.1 hb
      · exact h.notout b (List.mem_cons_of_mem _ hb) hm
    outnd := List.nodup_cons.mpr ⟨h.notout a (List.mem_cons_self ..), h.outnd⟩
    outlt := fun b hb => by
      rcases List.mem_cons.mp hb with rfl | hb
      · exact h.lt _ (List.mem_cons_self ..)
      · exact h.outlt b hb
    trout := by simp [ho, h.trout]
    created := created_cons h.created
      (fun b hb => by cases e <;> simp [Ev.newId, Ev.outId] at hb ho) (Nat.le_refl _)
    full := fun hf => ⟨(h.full hf).1, fun b hb' => by
      rcases (h.full hf).2 b hb' with h1 | h1
      · rcases List.mem_cons.mp h1 with rfl | h1
        · exact Or.inr (List.mem_cons_self ..)
        · exact Or.inl h1
      · exact Or.inr (List.mem_cons_of_mem _ h1)⟩ }

theorem Acct.retId {m l B a} (h : Acct fl m (a :: l) B) : Acct fl (m.retId a) l B := by
  unfold Mem.retId
  rw [if_neg (h.notout a (List.mem_cons_self ..))]
  exact h.out_step (.ret a) rfl rfl

theorem Acct.markDrop {m l B a} (h : Acct fl m (a :: l) B) : Acct fl (m.markDrop a) l B := by
  unfold Mem.markDrop
  rw [if_neg (h.notout a (List.mem_cons_self ..))]
  exact h.out_step (.drop a) rfl rfl

theorem Acct.dropId {m l B a} (h : Acct fl m (a :: l) B) : Acct fl (m.dropId a).2 l B :=
  h.markDrop.tick

theorem Mem.markDrop_budget (a : Nat) (m : Mem) : (m.markDrop a).budget = m.budget := by
  unfold Mem.markDrop; split <;> rfl

theorem Mem.retId_budget (a : Nat) (m : Mem) : (m.retId a).budget = m.budget := by
  unfold Mem.retId; split <;> rfl

theorem Mem.free_budget (b : Nat) (m : Mem) : (m.free b).budget = m.budget := by
  unfold Mem.free; split <;> rfl

theorem Mem.dropId_of_none {a : Nat} {m : Mem} (h : m.budget = none) : (m.dropId a).1 = false :=
  (Mem.tick_of_none ((Mem.markDrop_budget a m).trans h)).1

theorem Mem.dropId_budget_of_none {a : Nat} {m : Mem} (h : m.budget = none) :
    (m.dropId a).2.budget = none :=
  (Mem.tick_of_none ((Mem.markDrop_budget a m).trans h)).2

theorem Mem.dropSlot_of_none {x : Slot} {m : Mem} (h : m.budget = none) :
    (m.dropSlot x).1 = false ∧ (m.dropSlot x).2.budget = none := by
  cases x
  · exact ⟨rfl, h⟩
  · exact ⟨Mem.dropId_of_none h, Mem.dropId_budget_of_none h⟩

theorem Mem.dropSlice_of_none : ∀ (xs : List Slot) (m : Mem), m.budget = none →
    (m.dropSlice xs).1 = false ∧ (m.dropSlice xs).2.budget = none
  | [], _, h => ⟨rfl, h⟩
  | x :: xs, m, h => by
    obtain ⟨h1, h2⟩ := Mem.dropSlot_of_none (x := x) h
    obtain ⟨h3, h4⟩ := Mem.dropSlice_of_none xs _ h2
    simp only [Mem.dropSlice, h1, h3, h4, Bool.or_self, and_self]

theorem Mem.dropLoop_of_none : ∀ (xs : List Slot) (m : Mem), m.budget = none →
    (m.dropLoop xs).1 = false ∧ (m.dropLoop xs).2.budget = none
  | [], _, h => ⟨rfl, h⟩
  | x :: xs, m, h => by
    obtain ⟨h1, h2⟩ := Mem.dropSlot_of_none (x := x) h
    obtain ⟨h3, h4⟩ := Mem.dropLoop_of_none xs _ h2
    simp only [Mem.dropLoop, h1, Bool.false_eq_true, if_false, h3, h4, and_self]

theorem Mem.produce_of_none {m : Mem} (src : Option Nat) (h : m.budget = none) :
    ∃ m', m.produce src = (some m.next, m') ∧ m'.budget = none ∧ m'.out = m.out ∧
      m'.next = m.next + 1 := by
  unfold Mem.produce Mem.tick
  rw [h]
  exact ⟨_, rfl, rfl, rfl, rfl⟩

theorem Mem.cloneId_of_none {m : Mem} (a : Nat) (h : m.budget = none) :
    ∃ m', m.cloneId a = (some m.next, m') ∧ m'.budget = none ∧ m'.out = m.out ∧
      m'.next = m.next + 1 :=
  Mem.produce_of_none (some a) h

theorem Mem.genVal_of_none {m : Mem} (h : m.budget = none) :
    ∃ m', m.genVal = (some m.next, m') ∧ m'.budget = none ∧ m'.out = m.out ∧
      m'.next = m.next + 1 :=
  Mem.produce_of_none none h

theorem Acct.markDrops {m B} : ∀ {as l}, Acct fl m (as ++ l) B → Acct fl (m.markDrops as) l B
  | [], _, h => h
  | a :: as, l, h => by
    simp only [Mem.markDrops]
    exact Acct.markDrops (as := as) h.markDrop

theorem Acct.markDropSlots {m B} :
    ∀ {as l}, Acct fl m (as ++ l) B → Acct fl (m.markDropSlots (as.map .init)) l B
  | [], _, h => h
  | a :: as, l, h => by
    simp only [List.map_cons, Mem.markDropSlots]
    exact Acct.markDropSlots (as := as) h.markDrop

theorem Mem.dropLoop_cons (x : Slot) (xs : List Slot) (m : Mem) :
    Mem.dropLoop (x :: xs) m =
      if (m.dropSlot x).1 = true then (true, (m.dropSlot x).2)
      else Mem.dropLoop xs (m.dropSlot x).2 := rfl

theorem Mem.dropSlice_cons (x : Slot) (xs : List Slot) (m : Mem) :
    Mem.dropSlice (x :: xs) m =
      ((m.dropSlot x).1 || (Mem.dropSlice xs (m.dropSlot x).2).1,
        (Mem.dropSlice xs (m.dropSlot x).2).2) := rfl

/-- `drop_in_place` of a slice of owned elements: all of them go out, whatever panics -/
theorem Acct.dropSlice {B} :
    ∀ {as m l}, Acct fl m (as ++ l) B → Acct fl (m.dropSlice (as.map .init)).2 l B
  | [], _, _, h => h
  | a :: as, m, l, h => by
    rw [List.map_cons, Mem.dropSlice_cons]
    exact Acct.dropSlice (as := as) h.dropId

/-- a `for` loop of drops: the elements after a panicking drop are leaked -/
theorem Acct.dropLoop {B} :
    ∀ {as m l}, Acct fl m (as ++ l) B → Acct fl (m.dropLoop (as.map .init)).2 l B
  | [], _, _, h => h
  | a :: as, m, l, h => by
    rw [List.map_cons, Mem.dropLoop_cons]
    show Acct fl (if (m.dropId a).1 = true then (true, (m.dropId a).2)
      else Mem.dropLoop (as.map .init) (m.dropId a).2).2 l B
    have h1 : Acct fl (m.dropId a).2 (as ++ l) B := h.dropId
    by_cases hp : (m.dropId a).1 = true
    · rw [if_pos hp]
      refine h1.drop_left (fun hf => ?_)
      rw [Mem.dropId_of_none (h.budget_none hf)] at hp
      cases hp
    · rw [if_neg hp]; exact Acct.dropLoop (as := as) h1

theorem Acct.alloc {m l B} (h : Acct fl m l B) : Acct fl m.alloc.2 l (m.alloc.1 :: B) :=
  { h with
    nobad := h.nobad.cons rfl
    bnodup := List.nodup_cons.mpr ⟨fun hm => Nat.lt_irrefl _ (h.blt _ (h.blive _ hm)), h.bnodup⟩
    blive := fun b hb => by
      rcases List.mem_cons.mp hb with rfl | hb
      · exact List.mem_cons_self ..
      · exact List.mem_cons_of_mem _ (h.blive b hb)
    blt := fun b hb => by
      rcases List.mem_cons.mp hb with rfl | hb
      · exact Nat.lt_succ_self _
      · exact Nat.lt_succ_of_lt (h.blt b hb)
    bufsnd := List.nodup_cons.mpr ⟨fun hm => Nat.lt_irrefl _ (h.blt _ hm), h.bufsnd⟩
    trout := (filterMap_outId_none _ rfl).trans h.trout
    created := created_cons h.created (fun a ha => by simp [Ev.newId] at ha) (Nat.le_refl _)
    full := h.full }

theorem Acct.free {m l B b} (h : Acct fl m l (b :: B)) : Acct fl (m.free b) l B := by
  unfold Mem.free
  rw [if_pos (h.blive b (List.mem_cons_self ..))]
  have hnd := List.nodup_cons.mp h.bnodup
  exact { h with
    nobad := h.nobad.cons rfl
    bnodup := hnd.2
    blive := fun b' hb' => (List.mem_erase_of_ne (fun (hh : b' = b) => hnd.1 (hh ▸ hb'))).mpr
      (h.blive b' (List.mem_cons_of_mem _ hb'))
    blt := fun b' hb' => h.blt b' (List.mem_of_mem_erase hb')
    bufsnd := h.bufsnd.erase _
    trout := (filterMap_outId_none _ rfl).trans h.trout
    created := created_cons h.created (fun a ha => by simp [Ev.newId] at ha) (Nat.le_refl _)
    full := h.full }

def prefL (h : Hdr) : List Nat :=
  if h.thin && h.tracked && h.alive then (match h.pref with | .init p => [p] | .uninit => []) else []

def bufL (h : Hdr) : List Nat := if h.thin && h.alive then [h.buf] else []

def PrefInit (h : Hdr) : Prop :=
  h.thin = true → h.tracked = true → h.alive = true → ∃ p, h.pref = .init p

/-- header invariant: a live tracked prefix is initialised; a live ThinVec's capacity is a fixed
point of the capacity rounding of `layout` (so that "same layout" means "same capacity") -/
def HdrOk (v : Vec) : Prop :=
  PrefInit v.h ∧
    (v.h.thin = true → v.h.alive = true → 0 < v.h.esz ∧ roundCap v.h.esz v.cap = v.cap)

theorem HdrOk.of_eq {v v' : Vec} (h : HdrOk v) (hh : v'.h = v.h) (hc : v'.cap = v.cap) :
    HdrOk v' := by
  unfold HdrOk; rw [hh, hc]; exact h

theorem prefL_of_not_thin {h : Hdr} (ht : h.thin = false) : prefL h = [] := by
  simp [prefL, ht]

theorem prefL_dead (h : Hdr) : prefL { h with alive := false } = [] := by simp [prefL]
theorem bufL_dead (h : Hdr) : bufL { h with alive := false } = [] := by simp [bufL]

theorem bufL_live {h : Hdr} (ht : h.thin = true) (hal : h.alive = true) : bufL h = [h.buf] := by
  simp [bufL, ht, hal]

/-- Ownership invariant with a frame: besides the container (`L` = ids in slots `[0, len)`, its
prefix, its buffer) the running operation owns the ids `loc` and the buffers `locB`. -/
def OwnL (fl : Bool) (s : St) (loc locB : List Nat) : Prop :=
  ∃ L rest, s.v.len = L.length ∧ s.v.slots = L.map .init ++ rest ∧ HdrOk s.v ∧
    Acct fl s.mem (loc ++ (prefL s.v.h ++ L)) (locB ++ bufL s.v.h)

/-- The ownership invariant at operation boundaries. -/
def Own (s : St) : Prop := OwnL false s [] []

/-- The ownership invariant with the no-leak clause: no fault armed, and every id created so far is
held by the container (slot below `len`, live prefix) or already out (dropped / returned). -/
def OwnF (s : St) : Prop := OwnL true s [] []

def LenCoversInit (s : St) : Prop := ∀ i, i < s.v.len → ∃ a, s.v.slots[i]? = some (.init a)

theorem OwnL.intro {s loc locB} {L : List Nat} (hv : LocalVec s.v L) (hk : HdrOk s.v)
    (ha : Acct fl s.mem (loc ++ (prefL s.v.h ++ L)) (locB ++ bufL s.v.h)) : OwnL fl s loc locB := by
  obtain ⟨e1, rest, e2⟩ := hv
  exact ⟨L, rest, e1, e2, hk, ha⟩

theorem OwnL.elim {s loc locB} (h : OwnL fl s loc locB) :
    ∃ L, LocalVec s.v L ∧ Acct fl s.mem (loc ++ (prefL s.v.h ++ L)) (locB ++ bufL s.v.h) := by
  obtain ⟨L, rest, e1, e2, -, ha⟩ := h
  exact ⟨L, ⟨e1, rest, e2⟩, ha⟩

theorem OwnL.hdrOk {s loc locB} (h : OwnL fl s loc locB) : HdrOk s.v := by
  obtain ⟨_, _, _, _, hk, _⟩ := h
  exact hk

theorem OwnL.acct {s loc locB} {L : List Nat} (h : OwnL fl s loc locB) (hv : LocalVec s.v L) :
    Acct fl s.mem (loc ++ (prefL s.v.h ++ L)) (locB ++ bufL s.v.h) := by
  obtain ⟨L0, hv0, ha⟩ := h.elim
  rw [hv.unique hv0]; exact ha

theorem OwnL.of_post {s s' loc locB loc' locB'} {L' : List Nat} (h : OwnL fl s loc locB)
    (p : Post s s' L')
    (ha : Acct fl s'.mem (loc' ++ (prefL s.v.h ++ L')) (locB' ++ bufL s.v.h)) :
    OwnL fl s' loc' locB' :=
  OwnL.intro p.view (h.hdrOk.of_eq p.hdr p.cap) (by rw [p.hdr]; exact ha)

theorem OwnL.lenCovers {s loc locB} (h : OwnL fl s loc locB) : LenCoversInit s := by
  obtain ⟨L, rest, hl, hs, -, -⟩ := h
  intro i hi
  refine ⟨L[i]'(hl ▸ hi), ?_⟩
  rw [hs, List.getElem?_append_left (by simpa using hl ▸ hi)]
  simp [hl ▸ hi]

theorem OwnL.nobad {s loc locB} (h : OwnL fl s loc locB) : NoBad s.mem := by
  obtain ⟨_, _, ha⟩ := h.elim
  exact ha.nobad

theorem OwnL.len_le {s loc locB} (h : OwnL fl s loc locB) : s.v.len ≤ s.v.cap := by
  obtain ⟨L, hv, -⟩ := h.elim
  rw [hv.1]; exact hv.len_le

theorem OwnL.mem_step {s : St} {loc locB loc' locB' : List Nat} {m' : Mem} (h : OwnL fl s loc locB)
    (hm : ∀ X Y, Acct fl s.mem (loc ++ X) (locB ++ Y) → Acct fl m' (loc' ++ X) (locB' ++ Y)) :
    OwnL fl { s with mem := m' } loc' locB' := by
  obtain ⟨L, rest, hl, hs, hp, ha⟩ := h
  exact ⟨L, rest, hl, hs, hp, hm _ _ ha⟩

theorem OwnL.perm {s loc loc' locB} (h : OwnL fl s loc locB) (hp : loc'.Perm loc) :
    OwnL fl s loc' locB :=
  h.mem_step (fun _ _ hx => hx.perm (List.Perm.append_right _ hp))

theorem OwnL.leak {s loc loc' locB} (h : OwnL fl s (loc' ++ loc) locB) (hnf : fl = true → False) :
    OwnL fl s loc locB :=
  h.mem_step (fun _ _ hx => Acct.drop_left (by rwa [List.append_assoc] at hx) hnf)

theorem OwnL.leakB {s loc b locB} (h : OwnL fl s loc (b :: locB)) : OwnL fl s loc locB :=
  h.mem_step (fun _ _ hx => hx.weakenB (List.nodup_cons.mp hx.bnodup).2
    (fun _ hb => List.mem_cons_of_mem _ hb))

theorem OwnL.toFalse {s loc locB} (h : OwnL fl s loc locB) : OwnL false s loc locB := by
  obtain ⟨L, rest, hl, hs, hp, ha⟩ := h
  exact ⟨L, rest, hl, hs, hp, ha.toFalse⟩

theorem OwnL.budget_none {s loc locB} (h : OwnL fl s loc locB) (hf : fl = true) :
    s.mem.budget = none := by
  obtain ⟨_, _, ha⟩ := h.elim
  exact ha.budget_none hf

theorem OwnL.view_notout {s loc locB} {L : List Nat} (h : OwnL fl s loc locB)
    (hv : LocalVec s.v L) : ∀ x ∈ L, x ∉ s.mem.out :=
  fun x hx => (h.acct hv).notout x (by simp [hx])

theorem OwnL.mkVal {s loc locB} (h : OwnL fl s loc locB) :
    OwnL fl (s.onMem Mem.mkVal).2 ((s.onMem Mem.mkVal).1 :: loc) locB :=
  h.mem_step (fun _ _ hx => hx.mkVal)

theorem OwnL.tick {s loc locB} (h : OwnL fl s loc locB) : OwnL fl (s.onMem Mem.tick).2 loc locB :=
  h.mem_step (fun _ _ hx => hx.tick)

theorem OwnL.dropId {s a loc locB} (h : OwnL fl s (a :: loc) locB) :
    OwnL fl (s.onMem (Mem.dropId a)).2 loc locB :=
  h.mem_step (fun _ _ hx => Acct.dropId hx)

theorem OwnL.retId {s a loc locB} (h : OwnL fl s (a :: loc) locB) :
    OwnL fl (s.withMem (Mem.retId a)) loc locB :=
  h.mem_step (fun _ _ hx => Acct.retId hx)

theorem OwnL.markDrops {s as loc locB} (h : OwnL fl s (as ++ loc) locB) :
    OwnL fl (s.withMem (Mem.markDrops as)) loc locB :=
  h.mem_step (fun _ _ hx => Acct.markDrops (by rwa [List.append_assoc] at hx))

theorem OwnL.markDropSlots {s as loc locB} (h : OwnL fl s (as ++ loc) locB) :
    OwnL fl (s.withMem (Mem.markDropSlots (as.map .init))) loc locB :=
  h.mem_step (fun _ _ hx => Acct.markDropSlots (by rwa [List.append_assoc] at hx))

theorem OwnL.dropSlice {s as loc locB} (h : OwnL fl s (as ++ loc) locB) :
    OwnL fl (s.onMem (Mem.dropSlice (as.map .init))).2 loc locB :=
  h.mem_step (fun _ _ hx => Acct.dropSlice (by rwa [List.append_assoc] at hx))

theorem OwnL.dropLoop {s as loc locB} (h : OwnL fl s (as ++ loc) locB) :
    OwnL fl (s.onMem (Mem.dropLoop (as.map .init))).2 loc locB :=
  h.mem_step (fun _ _ hx => Acct.dropLoop (by rwa [List.append_assoc] at hx))

theorem OwnL.alloc {s loc locB} (h : OwnL fl s loc locB) :
    OwnL fl (s.onMem Mem.alloc).2 loc (s.mem.nextBuf :: locB) :=
  h.mem_step (fun _ _ hx => hx.alloc)

theorem OwnL.free {s b loc locB} (h : OwnL fl s loc (b :: locB)) :
    OwnL fl (s.withMem (Mem.free b)) loc locB :=
  h.mem_step (fun _ _ hx => Acct.free hx)

theorem OwnL.produce {s loc locB} (src : Option Nat) (h : OwnL fl s loc locB) :
    match s.onMem (Mem.produce src) with
    | (none, s') => OwnL fl s' loc locB ∧ s'.v = s.v
    | (some b, s') => OwnL fl s' (b :: loc) locB ∧ s'.v = s.v := by
  rw [St.onMem_eq]
  have hcl := fun X Y (hx : Acct fl s.mem (loc ++ X) (locB ++ Y)) => hx.produce src
  rcases hr : s.mem.produce src with ⟨_ | b, m'⟩ <;> simp only <;>
    exact ⟨h.mem_step (fun X Y hx => by have := hcl X Y hx; rw [hr] at this; exact this), trivial⟩

theorem OwnL.genVal {s loc locB} (h : OwnL fl s loc locB) :
    match s.onMem Mem.genVal with
    | (none, s') => OwnL fl s' loc locB ∧ s'.v = s.v
    | (some b, s') => OwnL fl s' (b :: loc) locB ∧ s'.v = s.v :=
  h.produce none

theorem Mem.tick_out (m : Mem) : m.tick.2.out = m.out := by
  unfold Mem.tick; split <;> rfl

theorem Mem.produce_out (src : Option Nat) (m : Mem) : (m.produce src).2.out = m.out := by
  unfold Mem.produce
  have := Mem.tick_out m
  generalize m.tick = r at this
  obtain ⟨p, m1⟩ := r
  cases p <;> simpa using this

theorem OwnL.range_live {s loc locB} (h : OwnL fl s loc locB) {a b : Nat} (hab : a ≤ b)
    (hb : b ≤ s.v.len) :
    ∃ M : List Nat, s.v.range a b = M.map .init ∧ M.length = b - a ∧ ∀ x ∈ M, x ∉ s.mem.out := by
  obtain ⟨L, hv, -⟩ := h.elim
  rw [hv.1] at hb
  exact ⟨(L.drop a).take (b - a), hv.range_sub hab hb, by simp; omega,
    fun x hx => h.view_notout hv x (List.mem_of_mem_drop (List.mem_of_mem_take hx))⟩

theorem Mem.cloneSlot_init {m : Mem} {a : Nat} (h : a ∉ m.out) :
    m.cloneSlot (.init a) = m.produce (some a) := by
  simp only [Mem.cloneSlot, if_neg h]; rfl

theorem OwnL.cloneSlot {s loc locB} (h : OwnL fl s loc locB) {x : Slot} {a : Nat} (hx : x = .init a)
    (hout : a ∉ s.mem.out) :
    match s.onMem (Mem.cloneSlot x) with
    | (none, s') => OwnL fl s' loc locB ∧ s'.v = s.v ∧ s'.mem.out = s.mem.out
    | (some b, s') => OwnL fl s' (b :: loc) locB ∧ s'.v = s.v ∧ s'.mem.out = s.mem.out := by
  subst hx
  have h1 := h.produce (some a)
  have h2 := Mem.produce_out (some a) s.mem
  rw [St.onMem_eq] at h1 ⊢
  rw [Mem.cloneSlot_init hout]
  rcases hr : s.mem.produce (some a) with ⟨_ | b, m'⟩ <;> rw [hr] at h1 h2 <;> simp only at h1 h2 ⊢ <;>
    exact ⟨h1.1, trivial, h2⟩

theorem OwnL.store {s b loc locB} (h : OwnL fl s (b :: loc) locB) (hc : s.v.len < s.v.cap) :
    OwnL fl (s.store b) loc locB := by
  obtain ⟨L, hv, ha⟩ := h.elim
  have hc' : L.length < s.v.cap := hv.1 ▸ hc
  refine h.of_post (St.store_post b hv hc') ?_
  rw [St.store_mem b hv hc']
  exact ha.perm (by perm_tac)

theorem OwnL.setLen_take {s loc locB} (h : OwnL fl s loc locB) {n : Nat} (hn : n ≤ s.v.len) :
    ∃ tl : List Nat, s.v.range n s.v.len = tl.map .init ∧ tl.length = s.v.len - n ∧
      OwnL fl (s.setLen n) (tl ++ loc) locB := by
  obtain ⟨L, hv, ha⟩ := h.elim
  rw [hv.1] at hn ⊢
  refine ⟨L.drop n, hv.range_drop hn, by simp, h.of_post (St.setLen_post hv hn) ?_⟩
  rw [← List.take_append_drop n L] at ha
  exact ha.perm (by perm_tac)

theorem OwnL.take_all {s loc locB} (h : OwnL fl s loc locB) :
    ∃ (L : List Nat), s.v.range 0 s.v.len = L.map .init ∧ OwnL fl (s.setLen 0) (L ++ loc) locB := by
  obtain ⟨tl, e1, -, e3⟩ := h.setLen_take (n := 0) (Nat.zero_le _)
  exact ⟨tl, e1, e3⟩

end HipVerif.Slots
