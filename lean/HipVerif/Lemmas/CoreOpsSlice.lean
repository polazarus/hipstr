/-
The slice family of the Core state machine (`slice`, `trySlice`, `trySliceRef`, `sliceRef`,
`adopt`): each is `StepOk` against `Spec.Std.step`.  They share one tail, `rangeInstall`; what
differs is how the range is obtained.  The correspondence between the GENERATED range functions
and std indexing is C08's.
-/
import HipVerif.Lemmas.CoreOps
import HipVerif.Lemmas.Ranges

namespace HipVerif.Core.A
open HipVerif.Spec.Std HipVerif.RangeTy HipVerif.Spec.Range

variable {cfg : Cfg} {s : State}

/-! ### the generated range functions only accept ranges inside the value (no side condition) -/

theorem simplify_ok_bounds (sb eb : Bound) (len a b : Nat)
    (h : Gen.Ranges.simplifyRangeMono sb eb len = .ok (a, b)) : a ≤ b ∧ b ≤ len :=
  ((Gen.Ranges.simplifyRangeMono_ok_iff sb eb len a b).mp h).2.2

theorem range_of_ok_bounds (whole slice : Slice) (a b : Nat)
    (h : Gen.Ranges.tryRangeOf whole slice = .ok (some (a, b))) : a ≤ b ∧ b ≤ whole.len := by
  obtain ⟨_, _, he, _, hl⟩ := (Gen.Ranges.tryRangeOf_some_iff whole slice a b).mp h
  omega

/-- `simplify_range` against std's `get`: it accepts exactly the ranges `get` accepts, inside the
value, and otherwise reports the error the specification names (it neither overflows nor hits UB).
Below `isize::MAX` a saturated index is above any length, so saturation does not show. -/
theorem simplify_cases (sb eb : Bound) (len : Nat) (hs : Bound.fits sb) (he : Bound.fits eb) (hl : len ≤ isizeMax) :
    (∃ a b, Gen.Ranges.simplifyRangeMono sb eb len = .ok (a, b) ∧ stdGet sb eb len = some (a, b) ∧
      a ≤ b ∧ b ≤ len) ∨
    (∃ a b k, Gen.Ranges.simplifyRangeMono sb eb len = .err (a, b, k) ∧ stdGet sb eb len = none ∧
      sliceErrOf sb eb len = .sliceErr a b k) := by
  have hU : U = 18446744073709551616 := rfl
  simp only [isizeMax] at hl
  have hnone : ¬ (startIdx sb ≤ endIdx len eb ∧ endIdx len eb ≤ len) → stdGet sb eb len = none := by
    intro h; unfold stdGet; simp only [h, if_false]
  rw [Gen.Ranges.simplifyRangeMono_eq, Gen.Ranges.startU_eq hs, Gen.Ranges.endU_eq he (by omega)]
  unfold sliceErrOf
  simp only
  split
  · exact .inr ⟨_, _, _, rfl, hnone (by omega), rfl⟩
  · split
    · exact .inr ⟨_, _, _, rfl, hnone (by omega), rfl⟩
    · split
      · exact .inr ⟨_, _, _, rfl, hnone (by omega), rfl⟩
      · exact .inl ⟨_, _, rfl, (stdGet_some_iff ..).mpr (by omega), by omega, by omega⟩

theorem tryRangeOf_total (whole slice : Slice) (h : slice.ptr + slice.len < U) :
    ∃ r, Gen.Ranges.tryRangeOf whole slice = .ok r := by
  rw [Gen.Ranges.tryRangeOf_eq]
  split
  · exact ⟨_, rfl⟩
  · rw [if_pos (by omega)]
    split <;> exact ⟨_, rfl⟩

theorem tryRangeOf_probe (relNeg : Bool) (rel plen len : Nat) (h2 : 2 * rel + 1 + plen < U) :
    Gen.Ranges.tryRangeOf ⟨rel + 1, len⟩ ⟨if relNeg then rel + 1 - rel else rel + 1 + rel, plen⟩ =
      if (!relNeg || rel == 0) && decide (rel + plen ≤ len) then .ok (some (rel, rel + plen)) else .ok none := by
  have hq : (if relNeg then rel + 1 - rel else rel + 1 + rel) + plen < U := by split <;> omega
  have hiff := fun o e =>
    Gen.Ranges.tryRangeOf_some_iff ⟨rel + 1, len⟩ ⟨if relNeg then rel + 1 - rel else rel + 1 + rel, plen⟩ o e
  obtain ⟨r, hr⟩ := tryRangeOf_total ⟨rel + 1, len⟩ ⟨if relNeg then rel + 1 - rel else rel + 1 + rel, plen⟩ hq
  by_cases hc : ((!relNeg || rel == 0) && decide (rel + plen ≤ len)) = true
  · rw [if_pos hc]
    apply (hiff _ _).mpr
    simp only [Bool.and_eq_true, Bool.or_eq_true, Bool.not_eq_true', beq_iff_eq, decide_eq_true_eq] at hc
    cases relNeg <;> simp at hc ⊢ <;> omega
  · rw [if_neg hc, hr]
    cases r with
    | none => rfl
    | some p =>
      exfalso; apply hc
      have := (hiff p.1 p.2).mp hr
      simp only [Bool.and_eq_true, Bool.or_eq_true, Bool.not_eq_true', beq_iff_eq, decide_eq_true_eq]
      cases relNeg <;> simp at this ⊢ <;> omega

theorem rangeInstall_def (hd : Handle) (d a b : Nat) (ret : Ret) :
    rangeInstall cfg s hd d a b ret =
      if dbgFails cfg (isNormalized cfg ⟨(rangeRepr cfg s hd a b).2.1, hd.tainted⟩) then ok s .panic []
      else install (rangeRepr cfg s hd a b).1 d (rangeRepr cfg s hd a b).2.1 hd.tainted ret
        (rangeRepr cfg s hd a b).2.2 := rfl

theorem rangeInstall_eq {hd : Handle} (hok : HandleOk cfg s hd) (d : Nat) {a b : Nat} (hb : b ≤ hlen hd) (ret : Ret) :
    rangeInstall cfg s hd d a b ret =
      install (rangeRepr cfg s hd a b).1 d (rangeRepr cfg s hd a b).2.1 hd.tainted ret (rangeRepr cfg s hd a b).2.2 := by
  rw [rangeInstall_def, norm_range hok hb]
  simp only [dbgFails, Bool.not_true, Bool.and_false, Bool.false_eq_true, if_false]

theorem rangeInstall_ok (w : Wf cfg s) {h : Nat} {hd : Handle} (hg : getH s h = some hd) {d : Nat}
    (hf : slotFree s d = true) {a b : Nat} (hab : a ≤ b) (hb : b ≤ hlen hd) (ret : Ret) :
    StepOk cfg s (rangeInstall cfg s hd d a b ret)
      ((abs s).set d (some (((view s hd).drop a).take (b - a))), eraseRet ret) := by
  have hok := w.handles h hd hg
  rw [rangeInstall_eq hok d hb]
  exact (built_range w hok hab hb).stepOk hf (fun _ _ => norm_range hok hb _) _ _

end HipVerif.Core.A

namespace HipVerif.Core
open HipVerif.Spec.Std HipVerif.RangeTy HipVerif.Spec.Range HipVerif.Core.A

variable {cfg : Cfg} {s : State}

/-! Against the specification the range must be one std computes, which needs the side conditions
`OpOk`; the invariants are kept whatever the bounds are: an accepted range lies inside the value. -/

theorem keeps_onSlot {f : Handle → State × Out} (w : Wf cfg s) (h : Nat)
    (k : ∀ hd, getH s h = some hd → Wf cfg (f hd).1 ∧ (NormOk cfg s → NormOk cfg (f hd).1)) :
    Wf cfg (onSlot s h f).1 ∧ (NormOk cfg s → NormOk cfg (onSlot s h f).1) := by
  unfold onSlot
  cases hg : getH s h with
  | none => exact ⟨w, id⟩
  | some hd => exact k hd hg

theorem keeps_slice (h d : Nat) (sb eb : Bound) (w : Wf cfg s) :
    Wf cfg (step cfg s (.slice h d sb eb)).1 ∧ (NormOk cfg s → NormOk cfg (step cfg s (.slice h d sb eb)).1) := by
  rw [step_slice]
  refine keeps_onSlot w h fun hd hg => ?_
  split
  · split
    · rename_i a b hsim
      have k := rangeInstall_ok w hg ‹_› (simplify_ok_bounds _ _ _ _ _ hsim).1 (simplify_ok_bounds _ _ _ _ _ hsim).2 .unit
      exact ⟨k.wf, k.norm⟩
    · exact ⟨w, id⟩
  · exact ⟨w, id⟩

theorem keeps_trySlice (h d : Nat) (sb eb : Bound) (w : Wf cfg s) :
    Wf cfg (step cfg s (.trySlice h d sb eb)).1 ∧ (NormOk cfg s → NormOk cfg (step cfg s (.trySlice h d sb eb)).1) := by
  rw [step_trySlice]
  refine keeps_onSlot w h fun hd hg => ?_
  split
  · split
    · rename_i a b hsim
      have k := rangeInstall_ok w hg ‹_› (simplify_ok_bounds _ _ _ _ _ hsim).1 (simplify_ok_bounds _ _ _ _ _ hsim).2 (.bool true)
      exact ⟨k.wf, k.norm⟩
    · exact ⟨w, id⟩
    · exact ⟨w, id⟩
  · exact ⟨w, id⟩

theorem keeps_trySliceRef (h d : Nat) (relNeg : Bool) (rel plen : Nat) (w : Wf cfg s) :
    Wf cfg (step cfg s (.trySliceRef h d relNeg rel plen)).1 ∧ (NormOk cfg s → NormOk cfg (step cfg s (.trySliceRef h d relNeg rel plen)).1) := by
  rw [step_trySliceRef]
  refine keeps_onSlot w h fun hd hg => ?_
  split
  · split
    · rename_i a b hsim
      have k := rangeInstall_ok w hg ‹_› (range_of_ok_bounds _ _ _ _ hsim).1 (range_of_ok_bounds _ _ _ _ hsim).2 (.bool true)
      exact ⟨k.wf, k.norm⟩
    · exact ⟨w, id⟩
    · exact ⟨w, id⟩
  · exact ⟨w, id⟩

theorem keeps_sliceRef (h d : Nat) (relNeg : Bool) (rel plen : Nat) (w : Wf cfg s) :
    Wf cfg (step cfg s (.sliceRef h d relNeg rel plen)).1 ∧ (NormOk cfg s → NormOk cfg (step cfg s (.sliceRef h d relNeg rel plen)).1) := by
  rw [step_sliceRef]
  refine keeps_onSlot w h fun hd hg => ?_
  split
  · split
    · rename_i a b hsim
      have k := rangeInstall_ok w hg ‹_› (range_of_ok_bounds _ _ _ _ hsim).1 (range_of_ok_bounds _ _ _ _ hsim).2 .unit
      exact ⟨k.wf, k.norm⟩
    · exact ⟨w, id⟩
  · exact ⟨w, id⟩

theorem ok_slice (h d : Nat) (sb eb : Bound) (w : Wf cfg s) (hop : OpOk s (.slice h d sb eb)) (flag : Bool) :
    StepOk cfg s (step cfg s (.slice h d sb eb)) (Spec.Std.step cfg.icap s.srcs (abs s) (.slice h d sb eb) flag) := by
  simp only [step_slice, spec_slice, sfree_abs]
  refine .on_slot w h fun hd hg => ?_
  obtain ⟨hfs, hfe, hlen'⟩ := hop
  simp only [view_length (w.handles h hd hg)]
  split
  · rcases simplify_cases sb eb (hlen hd) hfs hfe (hlen' hd hg) with ⟨a, b, h1, h2, hab, hb⟩ | ⟨a, b, k, h1, h2, _⟩
    · rw [h1, h2]; exact rangeInstall_ok w hg ‹_› hab hb _
    · rw [h1, h2]; exact .same w _ _
  · exact .same w _ _

theorem ok_trySlice (h d : Nat) (sb eb : Bound) (w : Wf cfg s) (hop : OpOk s (.trySlice h d sb eb)) (flag : Bool) :
    StepOk cfg s (step cfg s (.trySlice h d sb eb))
      (Spec.Std.step cfg.icap s.srcs (abs s) (.trySlice h d sb eb) flag) := by
  simp only [step_trySlice, spec_trySlice, sfree_abs]
  refine .on_slot w h fun hd hg => ?_
  obtain ⟨hfs, hfe, hlen'⟩ := hop
  simp only [view_length (w.handles h hd hg)]
  split
  · rcases simplify_cases sb eb (hlen hd) hfs hfe (hlen' hd hg) with ⟨a, b, h1, h2, hab, hb⟩ | ⟨a, b, k, h1, h2, h3⟩
    · rw [h1, h2]; exact rangeInstall_ok w hg ‹_› hab hb _
    · rw [h1, h2, h3]; exact .same w _ _
  · exact .same w _ _

theorem ok_trySliceRef (h d : Nat) (relNeg : Bool) (rel plen : Nat) (w : Wf cfg s)
    (hop : OpOk s (.trySliceRef h d relNeg rel plen)) (flag : Bool) :
    StepOk cfg s (step cfg s (.trySliceRef h d relNeg rel plen))
      (Spec.Std.step cfg.icap s.srcs (abs s) (.trySliceRef h d relNeg rel plen) flag) := by
  simp only [step_trySliceRef, spec_trySliceRef, sfree_abs]
  refine .on_slot w h fun hd hg => ?_
  simp only [view_length (w.handles h hd hg)]
  split
  · rw [tryRangeOf_probe relNeg rel plen (hlen hd) hop.2.1]
    by_cases hc : ((!relNeg || rel == 0) && decide (rel + plen ≤ hlen hd)) = true
    · simp only [hc, if_true]
      simp only [Bool.and_eq_true, decide_eq_true_eq] at hc
      have := rangeInstall_ok w hg ‹_› (Nat.le_add_right rel plen) hc.2 (.bool true)
      rwa [Nat.add_sub_cancel_left] at this
    · simp only [hc, Bool.false_eq_true, if_false]
      exact .same w _ _
  · exact .same w _ _

theorem ok_sliceRef (h d : Nat) (relNeg : Bool) (rel plen : Nat) (w : Wf cfg s)
    (hop : OpOk s (.sliceRef h d relNeg rel plen)) (flag : Bool) :
    StepOk cfg s (step cfg s (.sliceRef h d relNeg rel plen))
      (Spec.Std.step cfg.icap s.srcs (abs s) (.sliceRef h d relNeg rel plen) flag) := by
  simp only [step_sliceRef, spec_sliceRef, sfree_abs]
  refine .on_slot w h fun hd hg => ?_
  simp only [view_length (w.handles h hd hg)]
  split
  · rw [tryRangeOf_probe relNeg rel plen (hlen hd) hop.2.1]
    by_cases hc : ((!relNeg || rel == 0) && decide (rel + plen ≤ hlen hd)) = true
    · simp only [hc, if_true]
      simp only [Bool.and_eq_true, decide_eq_true_eq] at hc
      have := rangeInstall_ok w hg ‹_› (Nat.le_add_right rel plen) hc.2 .unit
      rwa [Nat.add_sub_cancel_left] at this
    · simp only [hc, Bool.false_eq_true, if_false]
      exact .same w _ _
  · exact .same w _ _

theorem ok_adopt (h d off len : Nat) (w : Wf cfg s) (flag : Bool) :
    StepOk cfg s (step cfg s (.adopt h d off len)) (Spec.Std.step cfg.icap s.srcs (abs s) (.adopt h d off len) flag) := by
  simp only [step_adopt, spec_adopt, sfree_abs]
  refine .on_slot w h fun hd hg => ?_
  simp only [view_length (w.handles h hd hg)]
  split
  · rename_i hf
    simp only [Bool.and_eq_true, decide_eq_true_eq] at hf
    have := rangeInstall_ok w hg hf.1 (Nat.le_add_right off len) hf.2 .unit
    rwa [Nat.add_sub_cancel_left] at this
  · exact .same w _ _

theorem ref_op_slice (h d : Nat) (sb eb : Bound) (w : Wf cfg s) (hop : OpOk s (.slice h d sb eb)) :
    Spec.Std.step cfg.icap s.srcs (abs s) (.slice h d sb eb) (retFlag (step cfg s (.slice h d sb eb)).2.ret) =
      (abs (step cfg s (.slice h d sb eb)).1, eraseRet (step cfg s (.slice h d sb eb)).2.ret) :=
  (ok_slice h d sb eb w hop _).refines

theorem ref_op_trySlice (h d : Nat) (sb eb : Bound) (w : Wf cfg s) (hop : OpOk s (.trySlice h d sb eb)) :
    Spec.Std.step cfg.icap s.srcs (abs s) (.trySlice h d sb eb) (retFlag (step cfg s (.trySlice h d sb eb)).2.ret) =
      (abs (step cfg s (.trySlice h d sb eb)).1, eraseRet (step cfg s (.trySlice h d sb eb)).2.ret) :=
  (ok_trySlice h d sb eb w hop _).refines

end HipVerif.Core
