import HipVerif.Model.Conc

/-!
# C04: basic lemmas (vector clocks, sums over the thread list, thread-local control)

Shared by `Lemmas/ConcCount.lean` (counting half) and `Lemmas/ConcClock.lean` (happens-before half).
-/

namespace HipVerif.Model.Conc
open HipVerif.Model

abbrev vat (v : List Nat) (u : Nat) : Nat := v[u]?.getD 0

theorem vjoin_nil_right (a : List Nat) : vjoin a [] = a := by
  cases a <;> rfl

@[simp] theorem vat_vjoin (a b : List Nat) (u : Nat) :
    vat (vjoin a b) u = max (vat a u) (vat b u) := by
  show (vjoin a b)[u]?.getD 0 = max (a[u]?.getD 0) (b[u]?.getD 0)
  induction a generalizing b u with
  | nil => simp only [vjoin, List.getElem?_nil, Option.getD_none, Nat.zero_max]
  | cons x a ih =>
    cases b with
    | nil => simp only [vjoin, List.getElem?_nil, Option.getD_none, Nat.max_zero]
    | cons y b =>
      cases u with
      | zero => rfl
      | succ u => exact ih b u

@[simp] theorem vat_vset (v : List Nat) (t x u : Nat) :
    vat (vset v t x) u = if u = t then x else vat v u := by
  show (vset v t x)[u]?.getD 0 = if u = t then x else v[u]?.getD 0
  induction v generalizing t u with
  | nil =>
    induction t generalizing u with
    | zero => cases u <;> simp [vset]
    | succ t ih => cases u with
      | zero => simp [vset]
      | succ u => simpa [vset] using ih u
  | cons a v ih =>
    cases t with
    | zero => cases u <;> simp [vset]
    | succ t => cases u with
      | zero => simp [vset]
      | succ u => simpa [vset] using ih t u

theorem vleb_iff (a b : List Nat) :
    vleb a b = true ↔ ∀ u : Nat, vat a u ≤ vat b u := by
  show vleb a b = true ↔ ∀ u : Nat, a[u]?.getD 0 ≤ b[u]?.getD 0
  -- a statement about all components: about the head and about the tail
  have hsplit : ∀ P : Nat → Prop, (∀ u, P u) ↔ P 0 ∧ ∀ u, P (u + 1) := fun P =>
    ⟨fun h => ⟨h 0, fun u => h (u + 1)⟩, fun h u => by cases u; exact h.1; exact h.2 _⟩
  induction a generalizing b with
  | nil => simp [vleb]
  | cons x a ih =>
    rw [hsplit]
    cases b <;> simp [vleb, ih]

theorem get_set_self {α} {l : List α} {t : Nat} {x y : α} (h : l[t]? = some x) :
    (l.set t y)[t]? = some y := by
  have : t < l.length := (List.getElem?_eq_some_iff.1 h).1
  simp [this]

theorem get_cases {α} {l : List α} {t u : Nat} {x z : α} (h : l[t]? = some x) (hu : l[u]? = some z) :
    (u = t ∧ z = x) ∨ u ≠ t := by
  by_cases hut : u = t
  · subst hut
    exact Or.inl ⟨rfl, Option.some.inj (hu.symm.trans h)⟩
  · exact Or.inr hut

theorem get_set_cases {α} {l : List α} {t u : Nat} {x y z : α} (h : l[t]? = some x)
    (hu : (l.set t y)[u]? = some z) : (u = t ∧ z = y) ∨ (u ≠ t ∧ l[u]? = some z) := by
  rcases get_cases (get_set_self (y := y) h) hu with h' | hut
  · exact Or.inl h'
  · exact Or.inr ⟨hut, (List.getElem?_set_ne (Ne.symm hut)).symm.trans hu⟩

theorem exists_get_set {α} {l : List α} {t : Nat} {x y : α} {P : Nat → α → Prop}
    (h : l[t]? = some x) (hP : P t x → P t y) :
    (∃ (w : Nat) (z : α), l[w]? = some z ∧ P w z) →
    ∃ (w : Nat) (z : α), (l.set t y)[w]? = some z ∧ P w z := by
  rintro ⟨w, z, hw, hz⟩
  rcases get_cases h hw with ⟨rfl, rfl⟩ | hne
  · exact ⟨w, y, get_set_self h, hP hz⟩
  · exact ⟨w, z, (List.getElem?_set_ne (Ne.symm hne)).trans hw, hz⟩

theorem get_set2_cases {α} {l : List α} {t u w : Nat} {x y x' y' z : α}
    (ht : l[t]? = some x) (hu : l[u]? = some y) (htu : t ≠ u)
    (hw : ((l.set t x').set u y')[w]? = some z) :
    (w = u ∧ z = y') ∨ (w = t ∧ z = x') ∨ (w ≠ t ∧ w ≠ u ∧ l[w]? = some z) := by
  have hu1 : (l.set t x')[u]? = some y := (List.getElem?_set_ne htu).trans hu
  rcases get_set_cases hu1 hw with h1 | ⟨hne, hw'⟩
  · exact Or.inl h1
  · rcases get_set_cases ht hw' with h2 | ⟨hne', hw''⟩
    · exact Or.inr (Or.inl h2)
    · exact Or.inr (Or.inr ⟨hne', hne, hw''⟩)

theorem get_set2_self {α} {l : List α} {t u : Nat} {x y x' y' : α}
    (ht : l[t]? = some x) (hu : l[u]? = some y) (htu : t ≠ u) :
    ((l.set t x').set u y')[t]? = some x' ∧ ((l.set t x').set u y')[u]? = some y' := by
  have hu1 : (l.set t x')[u]? = some y := (List.getElem?_set_ne htu).trans hu
  exact ⟨(List.getElem?_set_ne (Ne.symm htu)).trans (get_set_self ht), get_set_self hu1⟩

theorem get_set2_ne {α} {l : List α} {t u w : Nat} {x' y' : α} (hwt : w ≠ t) (hwu : w ≠ u) :
    ((l.set t x').set u y')[w]? = l[w]? := by
  rw [List.getElem?_set_ne (Ne.symm hwu), List.getElem?_set_ne (Ne.symm hwt)]

theorem exists_get_set2 {α} {l : List α} {t u : Nat} {x y x' y' : α} {P : Nat → α → Prop}
    (ht : l[t]? = some x) (hu : l[u]? = some y) (htu : t ≠ u)
    (hx : P t x → P t x') (hy : P u y → P u y') :
    (∃ (w : Nat) (z : α), l[w]? = some z ∧ P w z) →
    ∃ (w : Nat) (z : α), ((l.set t x').set u y')[w]? = some z ∧ P w z := fun h =>
  exists_get_set ((List.getElem?_set_ne htu).trans hu) hy (exists_get_set ht hx h)

theorem get_set_eq_none {α} {l : List α} {t u : Nat} {y : α} :
    (l.set t y)[u]? = none ↔ l[u]? = none := by
  simp

theorem sum_set_add (l : List Nat) (t x y : Nat) (h : l[t]? = some x) :
    (l.set t y).sum + x = l.sum + y := by
  induction l generalizing t with
  | nil => simp at h
  | cons a l ih =>
    cases t with
    | zero =>
      simp only [List.getElem?_cons_zero, Option.some.injEq] at h
      subst h
      simp only [List.set_cons_zero, List.sum_cons]; omega
    | succ t =>
      have := ih t (by simpa using h)
      simp only [List.set_cons_succ, List.sum_cons]; omega

theorem le_sum_of_getElem? (l : List Nat) (t x : Nat) (h : l[t]? = some x) : x ≤ l.sum := by
  have := sum_set_add l t x 0 h
  omega

theorem add_le_sum_of_ne (l : List Nat) (t u x y : Nat) (htu : t ≠ u)
    (ht : l[t]? = some x) (hu : l[u]? = some y) : x + y ≤ l.sum := by
  have h1 := sum_set_add l t x 0 ht
  have h2 := le_sum_of_getElem? (l.set t 0) u y ((List.getElem?_set_ne htu).trans hu)
  omega

theorem sum_eq_zero_iff_forall (l : List Nat) : l.sum = 0 ↔ ∀ (t : Nat) x, l[t]? = some x → x = 0 := by
  constructor
  · intro h t x hx
    have := le_sum_of_getElem? l t x hx
    omega
  · intro h
    induction l with
    | nil => rfl
    | cons a l ih =>
      have ha := h 0 a rfl
      have := ih fun t x hx => h (t + 1) x hx
      simp only [List.sum_cons]; omega

theorem sum_eq_of_others_zero (l : List Nat) (t x : Nat) (ht : l[t]? = some x)
    (h : ∀ (u : Nat) y, u ≠ t → l[u]? = some y → y = 0) : l.sum = x := by
  have h0 : (l.set t 0).sum = 0 := by
    rw [sum_eq_zero_iff_forall]
    intro u y hy
    rcases get_set_cases ht hy with ⟨_, rfl⟩ | ⟨hne, hy'⟩
    · rfl
    · exact h u y hne hy'
  have := sum_set_add l t x 0 ht
  omega

theorem fenceArm_cons {s : Simple} {arm : List Simple} (h : fenceArm (s :: arm) = true) :
    ∃ o, s = .fence o ∧ fenceArm arm = true := by
  have h' : s.isFence = true ∧ fenceArm arm = true := by simpa [fenceArm] using h
  cases s with
  | fence o => exact ⟨o, rfl, h'.2⟩
  | _ => exact absurd h'.1 (by simp [Simple.isFence])

theorem localRet_armCode (arm : List Simple) (r : Ret) (h : fenceArm arm = true) :
    localRet (armCode arm r) = some r := by
  induction arm with
  | nil => rfl
  | cons s arm ih =>
    obtain ⟨o, rfl, h'⟩ := fenceArm_cons h
    exact ih h'

theorem localAcq_armCode (arm : List Simple) (r : Ret) (h : fenceArm arm = true) :
    localAcq (armCode arm r) = acqFenceArm arm := by
  induction arm with
  | nil => rfl
  | cons s arm ih =>
    obtain ⟨o, rfl, h'⟩ := fenceArm_cons h
    show (o.isAcquire || localAcq (armCode arm r)) = (o.isAcquire || acqFenceArm arm)
    rw [ih h']

theorem localRet_cases {code : List AStep} {r : Ret} (h : localRet code = some r) :
    (∃ tl, code = .ret r :: tl) ∨
    (∃ o rest, code = .simple (.fence o) :: rest ∧ localRet rest = some r) := by
  cases code with
  | nil => simp [localRet] at h
  | cons a rest =>
    cases a with
    | ret r' =>
      simp only [localRet, Option.some.injEq] at h
      subst h; exact Or.inl ⟨rest, rfl⟩
    | simple s =>
      cases s with
      | fence o => exact Or.inr ⟨o, rest, rfl, h⟩
      | _ => simp [localRet] at h
    | _ => simp [localRet] at h

theorem norm_of_localRet {code : List AStep} {r : Ret} (ceil old : Nat)
    (h : localRet code = some r) : norm ceil code old = code := by
  rcases localRet_cases h with ⟨tl, rfl⟩ | ⟨o, rest, rfl, _⟩ <;> rfl

/-- Handles that are "in flight" inside a counter method: a `clone` whose CAS has succeeded
but has not returned yet, a `drop` whose decrement has not happened yet. -/
def inflight : Option Pc → Nat
  | some ⟨.clone, code, _⟩ => if localRet code = some .done then 1 else 0
  | some ⟨.drop, code, _⟩ => if localRet code = none then 1 else 0
  | _ => 0

def owned (th : Thread) : Nat := th.handles + inflight th.pc

def total (s : State) : Nat := (s.thr.map owned).sum

/-- The thread has established exclusive access and is about to use it: its `decr` will
return `Overflow` (it frees), or its `is_unique` will return `true` (it writes / takes). -/
def excl (th : Thread) : Bool :=
  match th.pc with
  | some ⟨.drop, code, _⟩ => localRet code == some .overflow
  | some ⟨.mutate, code, _⟩ => localRet code == some (.bool true)
  | some ⟨.unwrap, code, _⟩ => localRet code == some (.bool true)
  | _ => false

theorem handles_le_owned (th : Thread) : th.handles ≤ owned th := Nat.le_add_right _ _

theorem owned_idle {th : Thread} (h : th.pc = none) : owned th = th.handles := by
  simp [owned, h, inflight]

theorem excl_idle {th : Thread} (h : th.pc = none) : excl th = false := by
  simp [excl, h]

theorem not_excl_idle {th : Thread} (h : th.pc = none) {P : Prop} (he : excl th = true) : P := by
  rw [excl_idle h] at he; cases he

theorem no_pc_idle {th : Thread} (h : th.pc = none) {P : Prop} {pc : Pc} (hp : th.pc = some pc) : P := by
  rw [h] at hp; cases hp

theorem owned_congr {th th' : Thread} (hh : th'.handles = th.handles) (hp : th'.pc = th.pc) :
    owned th' = owned th := by
  unfold owned; rw [hh, hp]

theorem excl_congr {th th' : Thread} (hp : th'.pc = th.pc) : excl th' = excl th := by
  unfold excl; rw [hp]

theorem total_set {s s' : State} {t : Nat} {th th' : Thread} (ht : s.thr[t]? = some th)
    (hthr : s'.thr = s.thr.set t th') : total s' + owned th = total s + owned th' := by
  have := sum_set_add (s.thr.map owned) t (owned th) (owned th') (by simp [ht])
  simpa [total, hthr, List.map_set] using this

theorem total_set2 {s s' : State} {t u : Nat} {th uh th' uh' : Thread} (ht : s.thr[t]? = some th)
    (hu : s.thr[u]? = some uh) (htu : t ≠ u) (hthr : s'.thr = (s.thr.set t th').set u uh') :
    total s' + owned th + owned uh = total s + owned th' + owned uh' := by
  have e1 := total_set (s' := { s with thr := s.thr.set t th' }) ht rfl
  have e2 := total_set (s := { s with thr := s.thr.set t th' }) (th := uh)
    ((List.getElem?_set_ne htu).trans hu) hthr
  omega

theorem owned_le_total (s : State) (t : Nat) (th : Thread) (h : s.thr[t]? = some th) :
    owned th ≤ total s :=
  le_sum_of_getElem? (s.thr.map owned) t (owned th) (by simp [h])

theorem owned_add_le_total (s : State) (t u : Nat) (th uh : Thread) (htu : t ≠ u)
    (ht : s.thr[t]? = some th) (hu : s.thr[u]? = some uh) : owned th + owned uh ≤ total s :=
  add_le_sum_of_ne (s.thr.map owned) t u _ _ htu (by simp [ht]) (by simp [hu])

theorem total_eq_zero_iff (s : State) :
    total s = 0 ↔ ∀ (t : Nat) th, s.thr[t]? = some th → owned th = 0 := by
  unfold total
  rw [sum_eq_zero_iff_forall]
  constructor
  · intro h t th ht
    exact h t (owned th) (by simp [ht])
  · intro h t x hx
    simp only [List.getElem?_map, Option.map_eq_some_iff] at hx
    obtain ⟨th, hth, rfl⟩ := hx
    exact h t th hth

theorem total_eq_owned (s : State) (t : Nat) (th : Thread) (ht : s.thr[t]? = some th)
    (h : ∀ (u : Nat) uh, u ≠ t → s.thr[u]? = some uh → owned uh = 0) : total s = owned th := by
  refine sum_eq_of_others_zero (s.thr.map owned) t (owned th) (by simp [ht]) ?_
  intro u y hu hy
  simp only [List.getElem?_map, Option.map_eq_some_iff] at hy
  obtain ⟨uh, huh, rfl⟩ := hy
  exact h u uh hu huh

end HipVerif.Model.Conc
