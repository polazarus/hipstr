/-
`WfX` through the primitive state transformers.  Two lemmas carry everything: `wfx_setH`
(replace one pool entry) and `wfx_setI` (replace one inner); `release`, `incr`, taking a handle
out of the pool or putting one in are instances.  `boxVec`/`newHeap` append an inner.
-/
import HipVerif.Lemmas.CoreBasic

namespace HipVerif.Core

theorem handleOk_congr {cfg : Cfg} {s s' : State} {hd : Handle}
    (hs : s'.srcs = s.srcs) (hi : ∀ i, getI s' i = getI s i) :
    HandleOk cfg s' hd ↔ HandleOk cfg s hd := by
  unfold HandleOk
  cases hd.repr <;> simp [hs, hi]

theorem view_congr {s s' : State} {hd : Handle}
    (hs : s'.srcs = s.srcs) (hi : ∀ i, getI s' i = getI s i) : view s' hd = view s hd := by
  unfold view
  cases hd.repr <;> simp [hs, hi]

@[simp] theorem view_setH (s : State) (h : Nat) (v : Option Handle) (hd : Handle) :
    view (setH s h v) hd = view s hd := view_congr rfl (fun _ => rfl)

@[simp] theorem handleOk_setH (cfg : Cfg) (s : State) (h : Nat) (v : Option Handle) (hd : Handle) :
    HandleOk cfg (setH s h v) hd ↔ HandleOk cfg s hd := handleOk_congr rfl (fun _ => rfl)

/-! ### replacing a pool entry -/

def ownersOf : Option Handle → List Nat
  | some hd => (match hd.repr with | .heap o _ _ _ => [o] | _ => [])
  | none => []

theorem ownersOf_heap {hd : Handle} {o pb off len : Nat} (hr : hd.repr = .heap o pb off len) :
    ownersOf (some hd) = [o] := by
  simp only [ownersOf, hr]

theorem ownersOf_of_not_heap {hd : Handle} (h : isHeap hd = false) : ownersOf (some hd) = [] := by
  unfold isHeap at h
  unfold ownersOf
  cases hr : hd.repr <;> simp_all

theorem count_ownersOf (v : Option Handle) (i : Nat) :
    (ownersOf v).count i = if pointsTo i v then 1 else 0 := by
  cases v with
  | none => rfl
  | some hd =>
    obtain ⟨r, t⟩ := hd
    cases r <;> simp [ownersOf, pointsTo, List.count_cons]

/-- The pool entry `h` becomes `v`: the invariant is kept when the owners held locally change by
exactly the owner of the old entry against the owner of the new one. -/
theorem wfx_setH {cfg : Cfg} {s : State} {ex ex' : List Nat} {h : Nat} {v : Option Handle}
    (w : WfX cfg s ex) (hl : h < s.pool.length) (hv : ∀ hd, v = some hd → HandleOk cfg s hd)
    (hp : (ownersOf v ++ ex').Perm (ownersOf (getH s h) ++ ex)) : WfX cfg (setH s h v) ex' := by
  have hrefs : ∀ i, refsTo (setH s h v) i + ex'.count i = refsTo s i + ex.count i := by
    intro i
    have h1 := hp.count_eq i
    rw [List.count_append, List.count_append, count_ownersOf, count_ownersOf] at h1
    have h2 := pointsTo_le_refsTo s h i
    rw [refsTo_setH _ _ _ _ hl]
    omega
  refine { handles := ?_, held := ?_, counts := ?_, uniq := w.uniq, ceil := w.ceil, dead := ?_,
           datacap := w.datacap, bufFresh := w.bufFresh, bufDistinct := w.bufDistinct }
  · intro h' hd' hg'
    refine (handleOk_setH ..).mpr ?_
    by_cases he : h = h'
    · subst he; rw [getH_setH_same _ _ _ hl] at hg'; exact hv hd' hg'
    · rw [getH_setH_other _ _ _ _ he] at hg'; exact w.handles h' hd' hg'
  · intro i hi
    rcases List.mem_append.mp (hp.mem_iff.mp (List.mem_append_right _ hi)) with ho | hi'
    · -- `i` owned the old entry: that handle was valid
      have hpt : pointsTo i (getH s h) = true := by
        have := List.count_pos_iff.mpr ho
        rw [count_ownersOf] at this
        split at this
        · assumption
        · cases this
      obtain ⟨hd, pb, off, len, hg, hr⟩ := pointsTo_true hpt
      obtain ⟨x, hx, hlive, _⟩ := (handleOk_heap hr).mp (w.handles h hd hg)
      exact ⟨x, hx, hlive⟩
    · exact w.held i hi'
  · intro i x hx hlive
    rw [hrefs]; exact w.counts i x hx hlive
  · intro i x hx hdead
    have h0 := w.dead i x hx hdead
    have hnew : pointsTo i v = false := by
      cases hpv : pointsTo i v with
      | false => rfl
      | true =>
        obtain ⟨hd, pb, off, len, he, hr⟩ := pointsTo_true hpv
        obtain ⟨y, hy, hyl, _⟩ := (handleOk_heap hr).mp (hv hd he)
        rw [show getI s i = some x from hx] at hy; cases hy
        rw [hdead] at hyl; cases hyl
    rw [refsTo_setH _ _ _ _ hl, h0, hnew]; simp

theorem wfx_take {cfg : Cfg} {s : State} {ex : List Nat} (w : WfX cfg s ex)
    {h : Nat} {hd : Handle} (hg : getH s h = some hd) : WfX cfg (setH s h none) (ownersOf (some hd) ++ ex) :=
  wfx_setH w (getH_some_lt hg) nofun (by rw [hg]; exact .refl _)

theorem wfx_put {cfg : Cfg} {s : State} {ex : List Nat} {hd : Handle} (w : WfX cfg s (ownersOf (some hd) ++ ex))
    {d : Nat} (hfree : getH s d = none) (hl : d < s.pool.length) (hok : HandleOk cfg s hd) :
    WfX cfg (setH s d (some hd)) ex :=
  wfx_setH w hl (fun _ he => by cases he; exact hok) (by rw [hfree]; exact .refl _)

/-! ### replacing an inner -/

/-- The inner `o` becomes `x'` and the held owners `ex'`: what has to be checked is said once, about
`x'` alone.  Handles that point to `o` (there are some iff `0 < refsTo s o`) stay valid if the
inner stays live, keeps its buffer and does not get shorter. -/
theorem wfx_setI {cfg : Cfg} {s : State} {ex ex' : List Nat} {o : Nat} {x x' : Inner}
    (w : WfX cfg s ex) (hx : getI s o = some x)
    (hex : ∀ i, i ≠ o → ex'.count i = ex.count i)
    (hkeep : 0 < refsTo s o → x'.live = true ∧ x'.buf = x.buf ∧ x.data.length ≤ x'.data.length)
    (hheld : o ∈ ex' → x'.live = true)
    (hcnt : x'.live = true → refsTo s o + ex'.count o = x'.count + 1)
    (huniq : cfg.backend = .unique → x'.live = true → x'.count = 0)
    (hceil : x'.live = true → x'.count ≤ cfg.ceil)
    (hcap : x'.live = true → x'.data.length ≤ x'.cap)
    (hbuf : x'.buf < s.nextBuf)
    (hdist : x'.live = true → ∀ j y, j ≠ o → getI s j = some y → y.live = true → y.buf ≠ x'.buf) :
    WfX cfg (setI s o x') ex' := by
  have hget : ∀ {i y}, getI (setI s o x') i = some y → (o = i ∧ x' = y) ∨ (i ≠ o ∧ getI s i = some y) := by
    intro i y hy
    rw [getI_setI hx] at hy
    split at hy
    · rename_i he; cases hy; exact .inl ⟨he, rfl⟩
    · rename_i he; exact .inr ⟨fun e => he e.symm, hy⟩
  refine { handles := ?_, held := ?_, counts := ?_, uniq := ?_, ceil := ?_, dead := ?_,
           datacap := ?_, bufFresh := ?_, bufDistinct := ?_ }
  · intro h hd hg
    have hok := w.handles h hd hg
    cases hr : hd.repr with
    | inline bs => exact (handleOk_inline hr).mpr ((handleOk_inline hr).mp hok)
    | borrowed a b c => exact (handleOk_borrowed hr).mpr ((handleOk_borrowed (s := s) hr).mp hok)
    | heap ow pb off len =>
      obtain ⟨y, hy, hyl, hb, hrng⟩ := (handleOk_heap hr).mp hok
      refine (handleOk_heap hr).mpr ?_
      rw [getI_setI hx]
      split
      · rename_i he; subst he
        rw [hx] at hy; cases hy
        obtain ⟨h1, h2, h3⟩ := hkeep (refsTo_pos_of_getH hg (by rw [pointsTo_of_heap hr]; exact beq_self_eq_true _))
        exact ⟨x', rfl, h1, hb.trans h2.symm, Nat.le_trans hrng h3⟩
      · exact ⟨y, hy, hyl, hb, hrng⟩
  · intro i hi
    by_cases he : o = i
    · subst he; exact ⟨x', by rw [getI_setI hx, if_pos rfl], hheld hi⟩
    · have hne : i ≠ o := fun e => he e.symm
      obtain ⟨y, hy, hyl⟩ := w.held i (List.count_pos_iff.mp (by rw [← hex i hne]; exact List.count_pos_iff.mpr hi))
      exact ⟨y, by rw [getI_setI hx, if_neg he]; exact hy, hyl⟩
  · intro i y hy hyl
    rcases hget hy with ⟨rfl, rfl⟩ | ⟨hne, hy'⟩
    · exact hcnt hyl
    · rw [hex i hne]; exact w.counts i y hy' hyl
  · intro hu i y hy hyl
    rcases hget hy with ⟨rfl, rfl⟩ | ⟨_, hy'⟩
    · exact huniq hu hyl
    · exact w.uniq hu i y hy' hyl
  · intro i y hy hyl
    rcases hget hy with ⟨rfl, rfl⟩ | ⟨_, hy'⟩
    · exact hceil hyl
    · exact w.ceil i y hy' hyl
  · intro i y hy hyd
    rcases hget hy with ⟨rfl, rfl⟩ | ⟨_, hy'⟩
    · exact Nat.eq_zero_of_not_pos (fun hp => by rw [(hkeep hp).1] at hyd; cases hyd)
    · exact w.dead i y hy' hyd
  · intro i y hy hyl
    rcases hget hy with ⟨rfl, rfl⟩ | ⟨_, hy'⟩
    · exact hcap hyl
    · exact w.datacap i y hy' hyl
  · intro i y hy
    rcases hget hy with ⟨rfl, rfl⟩ | ⟨_, hy'⟩
    · exact hbuf
    · exact w.bufFresh i y hy'
  · intro i j y z hy hz hij hyl hzl
    rcases hget hy with ⟨rfl, rfl⟩ | ⟨hi, hy'⟩ <;> rcases hget hz with ⟨rfl, rfl⟩ | ⟨hj, hz'⟩
    · exact absurd rfl hij
    · exact fun e => hdist hyl j z hj hz' hzl e.symm
    · exact hdist hzl i y hi hy' hyl
    · exact w.bufDistinct i j y z hy' hz' hij hyl hzl

theorem WfX.held_head {cfg : Cfg} {s : State} {ex : List Nat} {o : Nat} (w : WfX cfg s (o :: ex))
    {x : Inner} (hx : getI s o = some x) : x.live = true := by
  obtain ⟨x', hx', hlive⟩ := w.held o (List.mem_cons_self ..)
  rw [hx] at hx'; cases hx'; exact hlive

theorem wfx_sole {cfg : Cfg} {s : State} {ex : List Nat} {o : Nat} (w : WfX cfg s (o :: ex)) {x : Inner}
    (hx : getI s o = some x) (hc : x.count = 0) : refsTo s o = 0 ∧ ex.count o = 0 := by
  have := w.counts o x hx (w.held_head hx)
  rw [List.count_cons_self] at this
  omega

theorem wfx_setData {cfg : Cfg} {s : State} {ex : List Nat} {o : Nat} (w : WfX cfg s (o :: ex))
    {x : Inner} (hx : getI s o = some x) (hc : x.count = 0)
    (data' : List UInt8) (cap' buf' : Nat) (hdc : data'.length ≤ cap') (hb : buf' < s.nextBuf)
    (hfresh : ∀ j y, j ≠ o → getI s j = some y → y.live = true → y.buf ≠ buf') :
    WfX cfg (setI s o { x with data := data', cap := cap', buf := buf' }) (o :: ex) := by
  have hlive := w.held_head hx
  have hr0 := (wfx_sole w hx hc).1
  -- no pool handle points to `o` (`hr0`), so nothing constrains the new data and buffer
  exact wfx_setI w hx (hex := fun _ _ => rfl) (hkeep := fun hp => by omega) (hheld := fun _ => hlive)
    (hcnt := fun _ => w.counts o x hx hlive) (huniq := fun _ _ => hc) (hceil := fun _ => w.ceil o x hx hlive)
    (hcap := fun _ => hdc) (hbuf := hb) (hdist := fun _ => hfresh)

/-! ### `release` (drop one share) -/

theorem release_eq {cfg : Cfg} {s : State} {o : Nat} {x : Inner} (hx : getI s o = some x) :
    release cfg s o =
      if cfg.backend == .unique || x.count == 0 then
        (setI s o { x with live := false },
          (if x.cap > 0 then [Event.freeBuf x.buf] else []) ++ [Event.freeInner o])
      else (setI s o { x with count := x.count - 1 }, []) := by
  unfold release; rw [hx]

theorem release_state (cfg : Cfg) (s : State) (o : Nat) :
    (release cfg s o).1 = s ∨ ∃ x', (release cfg s o).1 = setI s o x' := by
  unfold release
  cases getI s o with
  | none => exact .inl rfl
  | some x => simp only []; split <;> exact .inr ⟨_, rfl⟩

theorem release_srcs (cfg : Cfg) (s : State) (o : Nat) : (release cfg s o).1.srcs = s.srcs := by
  rcases release_state cfg s o with h | ⟨_, h⟩ <;> rw [h] <;> rfl

theorem release_pool (cfg : Cfg) (s : State) (o : Nat) : (release cfg s o).1.pool = s.pool := by
  rcases release_state cfg s o with h | ⟨_, h⟩ <;> rw [h] <;> rfl

theorem release_nextBuf (cfg : Cfg) (s : State) (o : Nat) : (release cfg s o).1.nextBuf = s.nextBuf := by
  rcases release_state cfg s o with h | ⟨_, h⟩ <;> rw [h] <;> rfl

theorem release_getH (cfg : Cfg) (s : State) (o h : Nat) : getH (release cfg s o).1 h = getH s h := by
  simp [getH, release_pool]

theorem release_refsTo (cfg : Cfg) (s : State) (o i : Nat) : refsTo (release cfg s o).1 i = refsTo s i := by
  simp [refsTo, release_pool]

theorem release_getI_other (cfg : Cfg) (s : State) (o j : Nat) (hne : o ≠ j) :
    getI (release cfg s o).1 j = getI s j := by
  rcases release_state cfg s o with h | ⟨_, h⟩ <;> rw [h]
  exact getI_setI_other _ _ _ _ hne

theorem release_getI_data (cfg : Cfg) (s : State) (o j : Nat) :
    (getI (release cfg s o).1 j).map (fun x => (x.data, x.cap, x.buf)) =
      (getI s j).map (fun x => (x.data, x.cap, x.buf)) := by
  cases hx : getI s o with
  | none => unfold release; rw [hx]
  | some x =>
    rw [release_eq hx]
    split <;> (rw [getI_setI hx]; split)
    all_goals first | rfl | (rename_i he; subst he; rw [hx]; rfl)

theorem view_release (cfg : Cfg) (s : State) (o : Nat) (hd : Handle) :
    view (release cfg s o).1 hd = view s hd := by
  unfold view
  cases hd.repr with
  | inline bs => rfl
  | borrowed a b c => simp [release_srcs]
  | heap ow pb off len =>
    have := release_getI_data cfg s o ow
    cases h1 : getI (release cfg s o).1 ow <;> cases h2 : getI s ow <;> simp_all

theorem wfx_release {cfg : Cfg} {s : State} {ex : List Nat} {o : Nat} (w : WfX cfg s (o :: ex)) :
    WfX cfg (release cfg s o).1 ex := by
  obtain ⟨x, hx, hlive⟩ := w.held o (List.mem_cons_self ..)
  have hcnt := w.counts o x hx hlive
  rw [List.count_cons_self] at hcnt
  have hex : ∀ i, i ≠ o → ex.count i = (o :: ex).count i := fun i hi => (List.count_cons_of_ne hi.symm).symm
  have hdist := fun (_ : x.live = true) j y hj hy hyl => w.bufDistinct j o y x hy hx hj hyl hlive
  rw [release_eq hx]
  split
  · -- last share: the inner dies
    rename_i hlast
    have hc0 : x.count = 0 := by
      rcases Bool.or_eq_true .. |>.mp hlast with hu | hz
      · exact w.uniq (by simpa using hu) o x hx hlive
      · simpa using hz
    have he0 : o ∉ ex := fun hm => by have := List.count_pos_iff.mpr hm; omega
    -- the new inner is dead: every clause about a live inner is void
    exact wfx_setI w hx (hex := hex) (hkeep := fun hp => by omega) (hheld := fun hm => absurd hm he0)
      (hcnt := nofun) (huniq := nofun) (hceil := nofun) (hcap := nofun) (hbuf := w.bufFresh o x hx) (hdist := nofun)
  · -- still shared: decrement
    rename_i hlast
    have hnu : cfg.backend ≠ .unique := by intro hu; simp [hu] at hlast
    have hpos : x.count ≠ 0 := by intro hz; simp [hz] at hlast
    have hce := w.ceil o x hx hlive
    exact wfx_setI w hx (hex := hex) (hkeep := fun _ => ⟨hlive, rfl, Nat.le_refl _⟩) (hheld := fun _ => hlive)
      (hcnt := fun _ => by show _ = x.count - 1 + 1; omega) (huniq := fun hu => absurd hu hnu)
      (hceil := fun _ => by show x.count - 1 ≤ _; omega) (hcap := fun _ => w.datacap o x hx hlive)
      (hbuf := w.bufFresh o x hx) (hdist := hdist)

/-! ### `incr` (take one more share) -/

theorem incr_false {cfg : Cfg} {s s1 : State} {o : Nat} (h : incr cfg s o = (s1, false)) : s1 = s := by
  unfold incr at h
  split at h
  · cases h; rfl
  · split at h <;> cases h <;> rfl
  · cases h; rfl

theorem incr_true {cfg : Cfg} {s s1 : State} {o : Nat} (h : incr cfg s o = (s1, true)) :
    cfg.backend ≠ .unique ∧ ∃ x, getI s o = some x ∧ x.count < cfg.ceil ∧
      s1 = setI s o { x with count := x.count + 1 } := by
  unfold incr at h
  cases hb : cfg.backend <;> cases hx : getI s o <;> simp [hb, hx] at h
  all_goals
    rename_i x
    by_cases hlt : x.count < cfg.ceil
    · simp [hlt] at h
      exact ⟨(by intro hu; cases hu), x, rfl, hlt, h.symm⟩
    · simp [hlt] at h

theorem wfx_incr {cfg : Cfg} {s s1 : State} {ex : List Nat} {o : Nat} (w : WfX cfg s ex)
    (hlive : ∀ x, getI s o = some x → x.live = true)
    (h : incr cfg s o = (s1, true)) : WfX cfg s1 (o :: ex) := by
  obtain ⟨hnu, x, hx, hlt, rfl⟩ := incr_true h
  have hl := hlive x hx
  have hc := w.counts o x hx hl
  exact wfx_setI w hx (hex := fun i hi => List.count_cons_of_ne hi.symm)
    (hkeep := fun _ => ⟨hl, rfl, Nat.le_refl _⟩) (hheld := fun _ => hl)
    (hcnt := fun _ => by rw [List.count_cons_self]; show _ = x.count + 1 + 1; omega)
    (huniq := fun hu => absurd hu hnu) (hceil := fun _ => hlt) (hcap := fun _ => w.datacap o x hx hl)
    (hbuf := w.bufFresh o x hx) (hdist := fun _ j y hj hy hyl => w.bufDistinct j o y x hy hx hj hyl hl)

theorem view_incr {cfg : Cfg} {s s1 : State} {o : Nat} {b : Bool} (h : incr cfg s o = (s1, b)) (hd : Handle) :
    view s1 hd = view s hd := by
  cases b with
  | false => rw [incr_false h]
  | true =>
    obtain ⟨_, x, hx, _, rfl⟩ := incr_true h
    unfold view
    cases hd.repr with
    | inline bs => rfl
    | borrowed a b c => rfl
    | heap ow pb off len =>
      simp only [getI_setI hx]
      split
      · rename_i he; subst he; simp [hx]
      · rfl

/-! ### boxing a Vec: `boxVec`, `newHeap` -/

theorem getI_append_lt (s : State) (x : Inner) (j : Nat) (hj : j < s.inners.length) :
    getI { s with inners := s.inners ++ [x] } j = getI s j := by
  simp [getI, List.getElem?_append_left hj]

theorem getI_append_same (s : State) (x : Inner) :
    getI { s with inners := s.inners ++ [x] } s.inners.length = some x := by
  simp [getI]

theorem getI_append_cases (s : State) (x : Inner) (j : Nat) (y : Inner)
    (h : getI { s with inners := s.inners ++ [x] } j = some y) :
    (j < s.inners.length ∧ getI s j = some y) ∨ (j = s.inners.length ∧ y = x) := by
  by_cases hj : j < s.inners.length
  · left; rw [getI_append_lt _ _ _ hj] at h; exact ⟨hj, h⟩
  · right
    have hlt := getI_some_lt h
    simp at hlt
    have : j = s.inners.length := by omega
    subst this
    rw [getI_append_same] at h; cases h; exact ⟨rfl, rfl⟩

theorem refsTo_eq_zero_of_ge {cfg : Cfg} {s : State} {ex : List Nat} (w : WfX cfg s ex) {i : Nat}
    (hi : s.inners.length ≤ i) : refsTo s i = 0 := by
  apply List.countP_eq_zero.mpr
  intro v hv hp
  obtain ⟨hd, pb, off, len, rfl, hr⟩ := pointsTo_true hp
  obtain ⟨k, hk, hke⟩ := List.getElem_of_mem hv
  obtain ⟨y, hy, _⟩ := (handleOk_heap hr).mp (w.handles k hd (by rw [getH_eq_getElem hk, hke]))
  have := getI_some_lt hy
  omega

theorem wfx_boxVec {cfg : Cfg} {s : State} {ex : List Nat} (w : WfX cfg s ex)
    (data : List UInt8) (cap buf : Nat) (hc : data.length ≤ cap) (hb : buf < s.nextBuf)
    (hfresh : ∀ j y, getI s j = some y → y.live = true → y.buf ≠ buf) :
    WfX cfg (boxVec s data cap buf).1 (s.inners.length :: ex) := by
  unfold boxVec
  simp only
  have hcount0 : ex.count s.inners.length = 0 := by
    apply List.count_eq_zero.mpr
    intro hm
    obtain ⟨y, hy, _⟩ := w.held _ hm
    have := getI_some_lt hy
    omega
  have hrefs0 := refsTo_eq_zero_of_ge w (Nat.le_refl s.inners.length)
  refine { handles := ?_, held := ?_, counts := ?_, uniq := ?_, ceil := ?_, dead := ?_,
           datacap := ?_, bufFresh := ?_, bufDistinct := ?_ }
  · intro h hd hg
    have hok := w.handles h hd hg
    cases hr : hd.repr with
    | inline bs => exact (handleOk_inline hr).mpr ((handleOk_inline hr).mp hok)
    | borrowed a b c => exact (handleOk_borrowed hr).mpr ((handleOk_borrowed (s := s) hr).mp hok)
    | heap ow pb off len =>
      obtain ⟨y, hy, rest⟩ := (handleOk_heap hr).mp hok
      exact (handleOk_heap hr).mpr ⟨y, by rw [getI_append_lt _ _ _ (getI_some_lt hy)]; exact hy, rest⟩
  · intro i hi
    rcases List.mem_cons.mp hi with rfl | hi
    · exact ⟨_, getI_append_same _ _, rfl⟩
    · obtain ⟨y, hy, hyl⟩ := w.held i hi
      exact ⟨y, by rw [getI_append_lt _ _ _ (getI_some_lt hy)]; exact hy, hyl⟩
  · intro i y hy hyl
    show refsTo s i + _ = _
    rcases getI_append_cases _ _ _ _ hy with ⟨hlt, hy'⟩ | ⟨rfl, rfl⟩
    · rw [List.count_cons_of_ne (by omega)]; exact w.counts i y hy' hyl
    · rw [List.count_cons_self, hrefs0, hcount0]
  · intro hu i y hy hyl
    rcases getI_append_cases _ _ _ _ hy with ⟨_, hy'⟩ | ⟨rfl, rfl⟩
    · exact w.uniq hu i y hy' hyl
    · rfl
  · intro i y hy hyl
    rcases getI_append_cases _ _ _ _ hy with ⟨_, hy'⟩ | ⟨rfl, rfl⟩
    · exact w.ceil i y hy' hyl
    · exact Nat.zero_le _
  · intro i y hy hyd
    rcases getI_append_cases _ _ _ _ hy with ⟨_, hy'⟩ | ⟨rfl, rfl⟩
    · exact w.dead i y hy' hyd
    · cases hyd
  · intro i y hy hyl
    rcases getI_append_cases _ _ _ _ hy with ⟨_, hy'⟩ | ⟨rfl, rfl⟩
    · exact w.datacap i y hy' hyl
    · exact hc
  · intro i y hy
    rcases getI_append_cases _ _ _ _ hy with ⟨_, hy'⟩ | ⟨rfl, rfl⟩
    · exact w.bufFresh i y hy'
    · exact hb
  · intro i j y z hy hz hij hyl hzl
    rcases getI_append_cases _ _ _ _ hy with ⟨hi, hy'⟩ | ⟨rfl, rfl⟩ <;>
      rcases getI_append_cases _ _ _ _ hz with ⟨hj, hz'⟩ | ⟨rfl, rfl⟩
    · exact w.bufDistinct i j y z hy' hz' hij hyl hzl
    · exact hfresh i y hy' hyl
    · exact fun h => hfresh j z hz' hzl h.symm
    · exact absurd rfl hij

theorem wfx_bump_to {cfg : Cfg} {s : State} {ex : List Nat} (w : WfX cfg s ex) {n : Nat}
    (hn : s.nextBuf ≤ n) : WfX cfg { s with nextBuf := n } ex :=
  { handles := w.handles, held := w.held, counts := w.counts, uniq := w.uniq, ceil := w.ceil,
    dead := w.dead, datacap := w.datacap,
    bufFresh := fun i x hx => Nat.lt_of_lt_of_le (w.bufFresh i x hx) hn,
    bufDistinct := w.bufDistinct }

theorem wfx_bump {cfg : Cfg} {s : State} {ex : List Nat} (w : WfX cfg s ex) :
    WfX cfg { s with nextBuf := s.nextBuf + 1 } ex := wfx_bump_to w (Nat.le_succ _)

theorem newHeap_rep (s : State) (data : List UInt8) (cap : Nat) :
    (newHeap s data cap).2.1 = .heap s.inners.length s.nextBuf 0 data.length := rfl

theorem getI_newHeap_new (s : State) (data : List UInt8) (cap : Nat) :
    getI (newHeap s data cap).1 s.inners.length =
      some { count := 0, data := data, cap := cap, buf := s.nextBuf, live := true } :=
  getI_append_same { s with nextBuf := s.nextBuf + 1 } _

theorem getI_newHeap_lt (s : State) (data : List UInt8) (cap : Nat) {j : Nat} (hj : j < s.inners.length) :
    getI (newHeap s data cap).1 j = getI s j :=
  getI_append_lt { s with nextBuf := s.nextBuf + 1 } _ j hj

theorem wfx_newHeap {cfg : Cfg} {s : State} {ex : List Nat} (w : WfX cfg s ex)
    (data : List UInt8) (cap : Nat) (hc : data.length ≤ cap) :
    WfX cfg (newHeap s data cap).1 (s.inners.length :: ex) :=
  wfx_boxVec (wfx_bump w) data cap s.nextBuf hc (Nat.lt_succ_self _)
    (by intro j y hy _ he; have := w.bufFresh j y hy; omega)

theorem wfx_perm {cfg : Cfg} {s : State} {ex ex' : List Nat} (hp : ex.Perm ex') (w : WfX cfg s ex) :
    WfX cfg s ex' :=
  { handles := w.handles,
    held := fun i hi => w.held i (hp.mem_iff.mpr hi),
    counts := fun i x hx hl => by rw [← hp.count_eq]; exact w.counts i x hx hl,
    uniq := w.uniq, ceil := w.ceil, dead := w.dead, datacap := w.datacap,
    bufFresh := w.bufFresh, bufDistinct := w.bufDistinct }

/-- `Kind::is_unique` spelled as the test `release` makes -/
theorem ownerUnique_eq {cfg : Cfg} {S : State} {o : Nat} {x : Inner} (hx : getI S o = some x) :
    ownerUnique cfg S o = (cfg.backend == .unique || x.count == 0) := by
  unfold ownerUnique
  rw [hx]
  cases cfg.backend <;> rfl

theorem ownerUnique_count {cfg : Cfg} {s : State} {ex : List Nat} (w : WfX cfg s ex) {o : Nat} {x : Inner}
    (hx : getI s o = some x) (hlive : x.live = true) (hu : ownerUnique cfg s o = true) : x.count = 0 := by
  rw [ownerUnique_eq hx] at hu
  rcases Bool.or_eq_true .. |>.mp hu with hb | hz
  · exact w.uniq (by simpa using hb) o x hx hlive
  · simpa using hz

end HipVerif.Core
