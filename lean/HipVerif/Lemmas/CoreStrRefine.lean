/-
The `HipStr` API layer refines the `String`/`str` specification (`Spec.Str.step`): one theorem
for every `StrOp` (`strStep_refines`), its lift to histories (`strRun_refines`), and the
corollary that the layer panics exactly where `String` does (`str_panic_iff`).
-/
import HipVerif.Spec.Str
import HipVerif.Lemmas.CoreStrStep

namespace HipVerif.Str
open HipVerif.Utf8 HipVerif.Core HipVerif.Spec.Std HipVerif.Spec.Range HipVerif.RangeTy
open HipVerif.Spec.Str (chars charsFuel rangeErrOf eraseStrRet strRetFlag)

@[simp] theorem chars_nil : chars [] = [] := rfl

theorem chars_scalar_append {c : List UInt8} (hc : isScalarEnc c = true) (x : List UInt8) :
    chars (c ++ x) = c :: chars x := by
  have hl := (isScalarEnc_length hc).1
  have hne : c ++ x ≠ [] := List.ne_nil_of_length_pos (by rw [List.length_append]; omega)
  have := peel_step (F := charsFuel) (stop := fun s => [s]) (step := fun n s r => s.take n :: r)
    (fun f => by cases f <;> rfl) (fun _ _ _ => rfl) hne
  rwa [firstCharLen_scalar_append hc, if_neg (by omega), List.take_left, List.drop_left] at this

theorem flatten_chars : ∀ s, valid s = true → (chars s).flatten = s := by
  refine valid_induction (motive := fun s => (chars s).flatten = s) rfl ?_
  intro c r hc _ ih
  rw [chars_scalar_append hc, List.flatten_cons, ih]

theorem chars_append_scalar {a c : List UInt8} (ha : valid a = true) (hc : isScalarEnc c = true) :
    chars (a ++ c) = chars a ++ [c] := by
  revert ha
  refine valid_induction (motive := fun a => chars (a ++ c) = chars a ++ [c]) ?_ ?_ a
  · have := chars_scalar_append hc []
    simpa using this
  · intro c0 r hc0 _ ih
    rw [List.append_assoc, chars_scalar_append hc0, ih, chars_scalar_append hc0, List.cons_append]

/-- On a non-empty well-formed string the last element of the
forward decomposition `chars` is the suffix starting at `lastCharStart` (what the code's backward
scan finds), and the other elements concatenate to the prefix before it. -/
theorem chars_last {v : List UInt8} (hv : valid v = true) (hne : v ≠ []) :
    (chars v).getLast? = some (v.drop (lastCharStart v)) ∧
    (chars v).dropLast.flatten = v.take (lastCharStart v) := by
  have hsc := isScalarEnc_drop_lastCharStart hv hne
  have hvt := valid_take_lastCharStart hv
  have hsplit : chars v = chars (v.take (lastCharStart v)) ++ [v.drop (lastCharStart v)] := by
    rw [← chars_append_scalar hvt hsc, List.take_append_drop]
  rw [hsplit]
  exact ⟨by simp, by simp [flatten_chars _ hvt]⟩

theorem rangeErrOf_of_sliceErrOf {sb eb : Bound} {len a b : Nat} {k : SliceErrorKind}
    (h : sliceErrOf sb eb len = .sliceErr a b k) : rangeErrOf sb eb len = .range a b k := by
  unfold sliceErrOf at h
  unfold rangeErrOf
  simp only at h ⊢
  split at h
  · rename_i h1; rw [if_pos h1]; cases h; rfl
  · rename_i h1
    rw [if_neg h1]
    split at h
    · rename_i h2; rw [if_pos h2]; cases h; rfl
    · rename_i h2; rw [if_neg h2]; cases h; rfl

variable {cfg : Cfg} {s : State}

theorem byte_tail (op : Op) (w : Wf cfg s) (hok : OpOk s op) :
    (Core.abs (Core.step cfg s op).1, eraseStrRet (.byte (Core.step cfg s op).2.ret)) =
      ((Spec.Std.step cfg.icap s.srcs (Core.abs s) op (retFlag (Core.step cfg s op).2.ret)).1,
        StrRet.byte (Spec.Std.step cfg.icap s.srcs (Core.abs s) op (retFlag (Core.step cfg s op).2.ret)).2) := by
  rw [refines cfg s op w hok]; rfl

/-- The refinement of one call needs well-formedness of one value only: the one `pop` cuts (its
backward scan and `String`'s forward decomposition agree on valid UTF-8 only). -/
theorem strStep_refines_of (sop : StrOp) (w : Wf cfg s) (hok : StrOk s sop)
    (hv : ∀ h v, sop = .popChar h → sget (Core.abs s) h = some v → valid v = true) :
    Spec.Str.step cfg.icap s.srcs (Core.abs s) sop (strRetFlag (strStep cfg s sop).2) =
      (Core.abs (strStep cfg s sop).1, eraseStrRet (strStep cfg s sop).2) := by
  cases sop with
  | byte op =>
    rw [strStep_byte]
    exact (byte_tail op w hok).symm
  | pushStr h bs =>
    rw [strStep_pushStr, byte_tail (.pushSlice h bs) w trivial]
    simp only [Spec.Str.step, Spec.Std.step]
    cases sget (Core.abs s) h <;> rfl
  | pushChar h c =>
    rw [strStep_pushChar, byte_tail (.pushSlice h (encode c)) w trivial]
    simp only [Spec.Str.step, Spec.Std.step]
    cases sget (Core.abs s) h <;> rfl
  | popChar h =>
    cases hgh : getH s h with
    | none =>
      rw [strStep_popChar, hgh]
      simp only [Spec.Str.step, sget_abs_none hgh]; rfl
    | some hd =>
      have hg := sget_abs_of_getH hgh
      have hval := hv h _ rfl hg
      by_cases hne : view s hd = []
      · rw [hne] at hg
        rw [strStep_popChar_empty hg]
        simp only [Spec.Str.step, hg, chars_nil, List.getLast?_nil]; rfl
      · obtain ⟨h1, _, h3, _⟩ := strStep_popChar_spec (cfg := cfg) w hg hval hne
        obtain ⟨c1, c2⟩ := chars_last hval hne
        simp only [Spec.Str.step, hg, c1, c2, h1, h3]; rfl
  | truncate h n =>
    cases hgh : getH s h with
    | none =>
      rw [strStep_truncate, hgh]
      simp only [Spec.Str.step, sget_abs_none hgh]; rfl
    | some hd =>
      have hg := sget_abs_of_getH hgh
      by_cases hlt : (view s hd).length < n
      · rw [strStep_truncate_noop hg hlt]
        have : n ≥ (view s hd).length := by omega
        simp only [Spec.Str.step, hg, this, if_true]; rfl
      · by_cases heq : n = (view s hd).length
        · subst heq
          obtain ⟨h1, h2, _⟩ := strStep_truncate_spec (cfg := cfg) w hg (Nat.le_refl _)
            (isBoundary_length _)
          have hge : (view s hd).length ≥ (view s hd).length := Nat.le_refl _
          rw [List.take_length, set_sget_self hg] at h2
          simp only [Spec.Str.step, hg, hge, if_true, h1, h2]; rfl
        · have hnlt : ¬ n ≥ (view s hd).length := by omega
          by_cases hb : isBoundary (view s hd) n = true
          · obtain ⟨h1, h2, _⟩ := strStep_truncate_spec (cfg := cfg) w hg (by omega) hb
            simp only [Spec.Str.step, hg, hnlt, if_false, hb, if_true, h1, h2]; rfl
          · have hle : n ≤ (view s hd).length := by omega
            rw [strStep_truncate, hgh]
            simp only [Spec.Str.step, hg, hnlt, hle, hb, if_false, if_true, Bool.false_eq_true]; rfl
  | trySlice h d sb eb =>
    cases hgh : getH s h with
    | none =>
      rw [strStep_trySlice, hgh]
      simp only [Spec.Str.step, sget_abs_none hgh]; rfl
    | some hd =>
      have hg := sget_abs_of_getH hgh
      rw [strStep_trySlice, hgh]
      simp only [Spec.Str.step, hg]
      rcases simplify_cases (d := d) w hok hgh with ⟨a, b, hst, hsim⟩ | ⟨a, b, k, hst, hsim, herr⟩ <;>
        simp only [hst, hsim]
      · by_cases ha : (!isBoundary (view s hd) a) = true
        · simp only [ha, if_true]; rfl
        · by_cases hb : (!isBoundary (view s hd) b) = true
          · simp only [ha, hb, if_true, if_false, Bool.false_eq_true]; rfl
          · simp only [ha, hb, if_false, Bool.false_eq_true]
            rw [byte_tail (.trySlice h d sb eb) w hok]
            simp only [Spec.Std.step, hg, hst]
            split <;> rfl
      · rw [rangeErrOf_of_sliceErrOf herr]; rfl
  | slice h d sb eb =>
    cases hgh : getH s h with
    | none =>
      rw [strStep_slice, hgh]
      simp only [Spec.Str.step, sget_abs_none hgh]; rfl
    | some hd =>
      have hg := sget_abs_of_getH hgh
      rw [strStep_slice, hgh]
      simp only [Spec.Str.step, hg]
      rcases simplify_cases (d := d) w hok hgh with ⟨a, b, hst, hsim⟩ | ⟨a, b, k, hst, hsim, _⟩ <;>
        simp only [hst, hsim]
      · by_cases hab : (isBoundary (view s hd) a && isBoundary (view s hd) b) = true
        · simp only [hab, if_true]
          rw [byte_tail (.slice h d sb eb) w hok]
          simp only [Spec.Std.step, hg, hst]
          split <;> rfl
        · simp only [hab, if_false, Bool.false_eq_true]; rfl
      · rfl
  | fromUtf8 d bs =>
    rw [strStep_fromUtf8]
    simp only [Spec.Str.step]
    by_cases hvb : valid bs = true
    · simp only [hvb, if_true]
      rw [byte_tail (.fromSlice d bs) w trivial]
      simp only [Spec.Std.step]
      split <;> rfl
    · simp only [hvb, if_false, Bool.false_eq_true]; rfl

/-- For every `HipStr` call a Rust program can make (`StrOk`: bounds are `usize`s) in a
well-formed state whose values are all valid UTF-8, the API layer (checks + byte-level operation on
the shared, offset, possibly inline/borrowed representation) yields EXACTLY the pool contents and
the returned value that `String`/`str` yield: same popped scalar bytes, same `SliceError` payload
and classification, same `valid_up_to`, panic in the same cases. -/
theorem strStep_refines (sop : StrOp) (w : Wf cfg s) (hok : StrOk s sop) (hv : AllValid (Core.abs s)) :
    Spec.Str.step cfg.icap s.srcs (Core.abs s) sop (strRetFlag (strStep cfg s sop).2) =
      (Core.abs (strStep cfg s sop).1, eraseStrRet (strStep cfg s sop).2) :=
  strStep_refines_of sop w hok (fun h v _ hg => hv h v hg)

theorem strStep_srcs (cfg : Cfg) (s : State) (sop : StrOp) : (strStep cfg s sop).1.srcs = s.srcs := by
  rcases strStep_lowers cfg s sop with h | ⟨op, h, _⟩ <;> rw [h]
  exact srcs_step cfg s op

theorem specStrRun_cons (icap : Nat) (srcs : List (List UInt8)) (p : SPool) (op : StrOp) (flag : Bool)
    (rest : List (StrOp × Bool)) :
    Spec.Str.run icap srcs p ((op, flag) :: rest) =
      ((Spec.Str.run icap srcs (Spec.Str.step icap srcs p op flag).1 rest).1,
        (Spec.Str.step icap srcs p op flag).2 :: (Spec.Str.run icap srcs (Spec.Str.step icap srcs p op flag).1 rest).2) := rfl

/-- Every history of `HipStr` calls refines `String`, from any well-formed state holding valid
UTF-8: at the end every value reads back what the same calls yield on `String`s, and every
returned item along the way (popped chars, slice errors, `valid_up_to`, panics) was equal. -/
theorem strRun_refines (cfg : Cfg) (ops : List StrOp) :
    ∀ s, Wf cfg s → AllStrOk cfg s ops → AllValid (Core.abs s) →
      Spec.Str.run cfg.icap s.srcs (Core.abs s) (ops.zip ((strRun cfg s ops).2.map strRetFlag)) =
        (Core.abs (strRun cfg s ops).1, (strRun cfg s ops).2.map eraseStrRet) := by
  induction ops with
  | nil => intro s _ _ _; rfl
  | cons op ops ih =>
    intro s w hok hv
    rw [strRun_cons]
    simp only [List.map_cons, List.zip_cons_cons]
    rw [specStrRun_cons, strStep_refines op w hok.1.1 hv]
    simp only
    have := ih _ (strStep_wf op w) hok.2 (strStep_valid op w hok.1.1 hv hok.1.2)
    rw [strStep_srcs] at this
    rw [this]

/-- … in particular from the initial state (any caller memory, any number of empty slots). -/
theorem strRun_refines_init (cfg : Cfg) (srcs : List (List UInt8)) (n : Nat) (ops : List StrOp)
    (hok : AllStrOk cfg (Core.init srcs n) ops) :
    Spec.Str.run cfg.icap srcs (Core.abs (Core.init srcs n))
        (ops.zip ((strRun cfg (Core.init srcs n) ops).2.map strRetFlag)) =
      (Core.abs (strRun cfg (Core.init srcs n) ops).1, (strRun cfg (Core.init srcs n) ops).2.map eraseStrRet) :=
  strRun_refines cfg ops (Core.init srcs n) (wf_init cfg srcs n) hok (allValid_init srcs n)

theorem eraseStrRet_panic_iff (r : StrRet) : eraseStrRet r = .panic ↔ r = .panic := by
  cases r <;> simp [eraseStrRet]

theorem eraseStrRet_bytePanic_iff (r : StrRet) : eraseStrRet r = .byte .panic ↔ r = .byte .panic := by
  cases r with
  | byte b => cases b <;> simp [eraseStrRet, eraseRet]
  | _ => simp [eraseStrRet]

/-- The `HipStr` layer panics exactly where `String`/`str` panic: a `HipStr` call panics — in
the layer's own checks (`truncate`/`slice` off a char boundary or out of range) or in the byte-level
operation under it — if and only if the `String` specification of that call does. -/
theorem str_panic_iff (sop : StrOp) (w : Wf cfg s) (hok : StrOk s sop) (hv : AllValid (Core.abs s)) :
    ((strStep cfg s sop).2 = .panic ↔
      (Spec.Str.step cfg.icap s.srcs (Core.abs s) sop (strRetFlag (strStep cfg s sop).2)).2 = .panic) ∧
    ((strStep cfg s sop).2 = .byte .panic ↔
      (Spec.Str.step cfg.icap s.srcs (Core.abs s) sop (strRetFlag (strStep cfg s sop).2)).2 = .byte .panic) := by
  rw [strStep_refines sop w hok hv]
  exact ⟨(eraseStrRet_panic_iff _).symm, (eraseStrRet_bytePanic_iff _).symm⟩

/-! ## a decidable sufficient check of the side conditions, and a worked history -/

def fitsB : Bound → Bool
  | .included n => decide (n < U)
  | .excluded n => decide (n < U)
  | .unbounded => true

/-- executable sufficient condition for `StrOk s sop ∧ StrArgsOk s sop` (plain byte-level
operations are accepted only when they have no side condition at all: `new`, `clone`, `drop`) -/
def strOkB (s : State) : StrOp → Bool
  | .byte (.new _) => true
  | .byte (.clone _ _) => true
  | .byte (.drop _) => true
  | .byte _ => false
  | .trySlice h _ sb eb | .slice h _ sb eb =>
    fitsB sb && fitsB eb &&
      (match getH s h with | some hd => decide (hlen hd ≤ isizeMax) | none => true)
  | .pushStr _ bs => valid bs
  | .pushChar _ c => isScalar c
  | _ => true

def allStrOkB (cfg : Cfg) (s : State) : List StrOp → Bool
  | [] => true
  | op :: ops => strOkB s op && allStrOkB cfg (strStep cfg s op).1 ops

theorem fits_of_fitsB {b : Bound} (h : fitsB b = true) : Bound.fits b := by
  cases b <;> simp_all [fitsB, Bound.fits]

theorem opOk_slice_of_check {s : State} {h : Nat} {sb eb : Bound}
    (hc : (fitsB sb && fitsB eb &&
      (match getH s h with | some hd => decide (hlen hd ≤ isizeMax) | none => true)) = true) :
    Bound.fits sb ∧ Bound.fits eb ∧ ∀ hd, getH s h = some hd → hlen hd ≤ isizeMax := by
  simp only [Bool.and_eq_true] at hc
  refine ⟨fits_of_fitsB hc.1.1, fits_of_fitsB hc.1.2, ?_⟩
  intro hd hg
  have := hc.2
  rw [hg] at this
  simpa using this

theorem strOk_of_check {s : State} {sop : StrOp} (hc : strOkB s sop = true) : StrOk s sop ∧ StrArgsOk s sop := by
  cases sop with
  | byte op => cases op <;> first | exact ⟨trivial, trivial⟩ | (simp [strOkB] at hc)
  | pushStr h bs => exact ⟨trivial, hc⟩
  | pushChar h c => exact ⟨trivial, hc⟩
  | popChar h => exact ⟨trivial, trivial⟩
  | truncate h n => exact ⟨trivial, trivial⟩
  | trySlice h d sb eb => exact ⟨opOk_slice_of_check hc, trivial⟩
  | slice h d sb eb => exact ⟨opOk_slice_of_check hc, trivial⟩
  | fromUtf8 d bs => exact ⟨trivial, trivial⟩

theorem allStrOk_of_check (cfg : Cfg) (ops : List StrOp) :
    ∀ s, allStrOkB cfg s ops = true → AllStrOk cfg s ops := by
  induction ops with
  | nil => intro _ _; trivial
  | cons op ops ih =>
    intro s hc
    simp only [allStrOkB, Bool.and_eq_true] at hc
    exact ⟨strOk_of_check hc.1, ih _ hc.2⟩

namespace Example

/-- a small inline capacity so that the history goes through allocated, shared-with-offset and
inline representations -/
def exCfg : Cfg := { backend := .arc, ceil := 5, debug := true, icap := 3 }

/-- 🦀 -/
def crab : List UInt8 := [0xF0, 0x9F, 0xA6, 0x80]

/-- `from_utf8("é€🦀")`; `from_utf8(b"a\xFF")` (rejected, `valid_up_to = 1`); `try_slice(1..)` (inside
`é`); `try_slice(0..3)` (end inside `€`); `truncate(1)` (panics); `truncate(5)`; `pop()` (`€`);
`push('🦀')`; `slice(2..)`; `clone` -/
def ops : List StrOp :=
  [ .fromUtf8 0 ([0xC3, 0xA9, 0xE2, 0x82, 0xAC] ++ crab),
    .fromUtf8 2 [0x61, 0xFF],
    .trySlice 0 1 (.included 1) .unbounded,
    .trySlice 0 1 (.included 0) (.excluded 3),
    .truncate 0 1,
    .truncate 0 5,
    .popChar 0,
    .pushChar 0 0x1F980,
    .slice 0 1 (.included 2) .unbounded,
    .byte (.clone 1 2) ]

/-- the hypotheses of `strRun_refines_init` hold on this history -/
theorem ops_ok : AllStrOk exCfg (Core.init [] 3) ops :=
  allStrOk_of_check exCfg ops _ (by decide +kernel)

/-- what the model answers … -/
theorem model_result :
    (strRun exCfg (Core.init [] 3) ops).2 =
      [.byte .unit, .utf8Err 1, .sliceErr (.startNotBoundary 1 9), .sliceErr (.endNotBoundary 0 3), .panic,
        .byte .unit, .char (some [0xE2, 0x82, 0xAC]), .byte .unit, .byte .unit, .byte .unit] ∧
    Core.abs (strRun exCfg (Core.init [] 3) ops).1 = [some ([0xC3, 0xA9] ++ crab), some crab, some crab] := by
  decide +kernel

/-- … is, computed independently, what the `String` specification answers (same final pool, same
returned values) -/
theorem spec_result :
    Spec.Str.run exCfg.icap [] (Core.abs (Core.init [] 3))
        (ops.zip ((strRun exCfg (Core.init [] 3) ops).2.map strRetFlag)) =
      ([some ([0xC3, 0xA9] ++ crab), some crab, some crab],
        [.byte .unit, .utf8Err 1, .sliceErr (.startNotBoundary 1 9), .sliceErr (.endNotBoundary 0 3), .panic,
          .byte .unit, .char (some [0xE2, 0x82, 0xAC]), .byte .unit, .byte .unit, .byte .unit]) := by
  decide +kernel

example :
    Spec.Str.run exCfg.icap [] (Core.abs (Core.init [] 3))
        (ops.zip ((strRun exCfg (Core.init [] 3) ops).2.map strRetFlag)) =
      (Core.abs (strRun exCfg (Core.init [] 3) ops).1, (strRun exCfg (Core.init [] 3) ops).2.map eraseStrRet) :=
  strRun_refines_init exCfg [] 3 ops ops_ok

end Example

end HipVerif.Str
