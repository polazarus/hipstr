/-
The ownership invariant is preserved by every operation of the L0 model, for every fault
position (`step_own`), hence along every history (`run_own`); initial states; what a completed
container drop achieves.
-/
import HipVerif.Lemmas.SlotsThin
import HipVerif.Lemmas.SlotsIter
namespace HipVerif.Slots

variable {fl : Bool}

/-- operations that leak by design: a `Drain`/`IntoIter` that is `mem::forget`-ed -/
def Op.leaks : Op → Bool
  | .drain _ _ _ .leak => true
  | .intoIter _ .leak => true
  | _ => false

theorem OwnL.budget {s loc locB} (k : Option Nat) (h : OwnL fl s loc locB)
    (hk : fl = true → k = none) :
    OwnL fl { s with mem := { s.mem with budget := k } } loc locB :=
  h.mem_step (fun _ _ hx => { hx with full := fun hf => ⟨hk hf, (hx.full hf).2⟩ })

theorem iStep_own {s loc locB} (op : Op) (h : OwnL fl s loc locB)
    (hleak : fl = true → op.leaks = false) (hth : fl = true → s.v.h.thin = false) :
    OwnL fl (iStep op s).2 loc locB := by
  cases op <;> simp only [iStep, liftB]
  case push => exact iPush_own h
  case tryPush => exact iTryPush_own h
  case pop => exact iPop_own h
  case popIf b => exact iPopIf_own b h
  case fromIter hint n => exact iFromIter_own hint n h
  case insert i => exact iInsert_own i h
  case tryInsert i => exact iTryInsert_own i h
  case remove i => exact iRemove_own i h
  case swapRemove i => exact iSwapRemove_own i h
  case truncate n => exact iTruncate_own n h
  case clear => exact iTruncate_own 0 h
  case resize n => exact iResize_own n h
  case resizeWith n => exact iResizeWith_own n h
  case extSlice n => exact iExtSlice_own n h
  case extWithin a b => exact iExtWithin_own a b h
  case extIter hint n => exact iExtend_own n h
  case clone => exact iClone_own h
  case append n => exact iAppend_own n h
  case splitOff a => exact iSplitOff_own a h
  case drain a b sc fin =>
    exact drainOp_own a b sc fin h (fun hf => by
      have := hleak hf; cases fin <;> simp [Op.leaks] at this ⊢)
  case intoIter sc fin =>
    exact iIntoIter_own sc fin h (fun hf => by
      have := hleak hf; cases fin <;> simp [Op.leaks] at this ⊢) hth
  case reserve n => exact h
  case shrinkFit => exact h
  case roundtrip => exact iRoundtrip_own h
  case dropVec => exact iDrop_own h hth

theorem tStep_own {s loc locB} (op : Op) (h : OwnL fl s loc locB) (ht : s.v.h.thin = true)
    (hal : s.v.h.alive = true) (hleak : fl = true → op.leaks = false) :
    OwnL fl (tStep op s).2 loc locB := by
  cases op <;> simp only [tStep, liftB]
  case push => exact tPush_own h ht hal
  case tryPush => exact h
  case pop => exact iPop_own h
  case popIf b => exact h
  case fromIter hint n => exact tFromIter_own hint n h ht hal
  case insert i => exact tInsert_own i h ht hal
  case tryInsert i => exact h
  case remove i => exact iRemove_own i h
  case swapRemove i => exact tSwapRemove_own i h
  case truncate n => exact tTruncate_own n h
  case clear => exact tClear_own h
  case resize n => exact tResize_own n h ht hal
  case resizeWith n => exact h
  case extSlice n => exact tExtSlice_own n h ht hal
  case extWithin a b => exact tExtWithin_own a b h ht hal
  case extIter hint n => exact tExtend_own hint n h ht hal
  case clone => exact tClone_own h
  case append n => exact tAppend_own n h ht hal
  case splitOff a => exact tSplitOff_own a h
  case drain a b sc fin =>
    exact drainOp_own a b sc fin h (fun hf => by
      have := hleak hf; cases fin <;> simp [Op.leaks] at this ⊢)
  case intoIter sc fin => exact h
  case reserve n => exact tReserve_own n h ht hal
  case shrinkFit => exact tShrinkFit_own h ht hal
  case roundtrip =>
    rcases hr : tRoundtrip s with _ | r
    · exact h
    · exact tRoundtrip_own h ht hal r hr
  case dropVec => exact tDrop_own h ht hal

theorem step_ownL {s : St} (k : Option Nat) (op : Op) (h : OwnL fl s [] [])
    (hk : fl = true → k = none) (hleak : fl = true → op.leaks = false) :
    OwnL fl (step k op s).2 [] [] := by
  unfold step
  split
  · rename_i hal
    have h1 : OwnL fl ({ s with mem := { s.mem with budget := k } } : St) [] [] :=
      OwnL.budget k h hk
    simp only
    by_cases ht : s.v.h.thin = true
    · simp only [ht, if_true]
      exact OwnL.budget none (tStep_own op h1 ht hal hleak) (fun _ => rfl)
    · simp only [ht, Bool.false_eq_true, if_false]
      exact OwnL.budget none (iStep_own op h1 hleak (fun _ => by simpa using ht)) (fun _ => rfl)
  · exact h

/-- Every operation, with a fault injected at any callback (or none), preserves the ownership
invariant — on normal return and after unwinding alike. -/
theorem step_own {s : St} (k : Option Nat) (op : Op) (h : Own s) : Own (step k op s).2 :=
  step_ownL k op h (fun hf => by cases hf) (fun hf => by cases hf)

theorem run_own : ∀ (hist : List (Option Nat × Op)) (s : St), Own s → Own (run hist s)
  | [], _, h => h
  | (k, op) :: hist, _, h => run_own hist _ (step_own k op h)

/-- After every history of operations and injected faults: the invariant holds, the length covers
only initialised slots, and the monitor has recorded no violation. -/
theorem run_safe {s : St} (h : Own s) (hist : List (Option Nat × Op)) :
    Own (run hist s) ∧ LenCoversInit (run hist s) ∧ NoBad (run hist s).mem :=
  ⟨run_own hist s h, (run_own hist s h).lenCovers, (run_own hist s h).nobad⟩

/-- Without a fault and for a non-leaking operation the no-leak invariant is preserved: whatever
the operation does (including its own assertion panics), every id created so far is still held by
the container or has been dropped / handed to the caller. -/
theorem step_ownF {s : St} (op : Op) (h : OwnF s) (hleak : op.leaks = false) :
    OwnF (step none op s).2 :=
  step_ownL none op h (fun _ => rfl) (fun _ => hleak)

def CleanHist (hist : List (Option Nat × Op)) : Prop :=
  ∀ x ∈ hist, x.1 = none ∧ x.2.leaks = false

instance (hist : List (Option Nat × Op)) : Decidable (CleanHist hist) := by
  unfold CleanHist; infer_instance

theorem run_ownF : ∀ (hist : List (Option Nat × Op)) (s : St), OwnF s → CleanHist hist →
    OwnF (run hist s)
  | [], _, h, _ => h
  | (k, op) :: hist, s, h, hc => by
    obtain ⟨hk, hl⟩ := hc (k, op) (List.mem_cons_self ..)
    simp only at hk hl
    subst hk
    exact run_ownF hist _ (step_ownF op h hl) (fun x hx => hc x (List.mem_cons_of_mem _ hx))

theorem Acct.empty : Acct fl {} [] [] :=
  { nobad := fun _ h => by simp at h, nodup := List.nodup_nil, lt := fun _ h => by simp at h,
    notout := fun _ h => by simp at h, outnd := List.nodup_nil, outlt := fun _ h => by simp at h,
    bnodup := List.nodup_nil, blive := fun _ h => by simp at h, blt := fun _ h => by simp at h,
    bufsnd := List.nodup_nil, trout := rfl, created := fun _ h => by simp at h,
    full := fun _ => ⟨rfl, fun a ha => by simp at ha⟩ }

theorem ownL_initInline (cap : Nat) : OwnL fl (initInline cap) [] [] :=
  ⟨[], uninits cap, rfl, by simp [initInline, iNew],
    ⟨fun h => by simp [initInline, iNew] at h, fun h => by simp [initInline, iNew] at h⟩,
    by simpa [initInline, iNew, prefL, bufL] using Acct.empty⟩

theorem ownL_initThin (esz : Nat) (tracked : Bool) (h : 0 < esz) :
    OwnL fl (initThin esz tracked) [] [] := by
  have h0 : OwnL fl ({} : St) [] [] :=
    ⟨[], [], rfl, rfl, ⟨fun h => by simp at h, fun h => by simp at h⟩,
      by simpa [prefL, bufL] using Acct.empty⟩
  exact tNewQuiet_own esz tracked h0 h (fun _ => ⟨rfl, by simp [prefL]⟩)

theorem own_initInline (cap : Nat) : Own (initInline cap) := ownL_initInline cap
theorem own_initThin (esz : Nat) (tracked : Bool) (h : 0 < esz) : Own (initThin esz tracked) :=
  ownL_initThin esz tracked h
theorem ownF_initInline (cap : Nat) : OwnF (initInline cap) := ownL_initInline cap
theorem ownF_initThin (esz : Nat) (tracked : Bool) (h : 0 < esz) : OwnF (initThin esz tracked) :=
  ownL_initThin esz tracked h

theorem Mem.markDrop_mem (a : Nat) (m : Mem) : a ∈ (m.markDrop a).out := by
  unfold Mem.markDrop; split
  · assumption
  · simp

theorem Mem.markDrop_mono {a b : Nat} {m : Mem} (h : b ∈ m.out) : b ∈ (m.markDrop a).out := by
  unfold Mem.markDrop; split
  · exact h
  · simp [h]

theorem Mem.dropId_mem (a : Nat) (m : Mem) : a ∈ (m.dropId a).2.out := by
  unfold Mem.dropId; rw [Mem.tick_out]; exact Mem.markDrop_mem a m

theorem Mem.dropId_mono {a b : Nat} {m : Mem} (h : b ∈ m.out) : b ∈ (m.dropId a).2.out := by
  unfold Mem.dropId; rw [Mem.tick_out]; exact Mem.markDrop_mono h

theorem Mem.dropSlot_mono {b : Nat} (x : Slot) {m : Mem} (h : b ∈ m.out) :
    b ∈ (m.dropSlot x).2.out := by
  cases x
  · exact h
  · exact Mem.dropId_mono h

theorem Mem.dropSlice_mono {b : Nat} : ∀ (xs : List Slot) (m : Mem), b ∈ m.out →
    b ∈ (m.dropSlice xs).2.out
  | [], _, h => h
  | x :: xs, _, h => Mem.dropSlice_mono xs _ (Mem.dropSlot_mono x h)

theorem Mem.dropSlice_complete {b : Nat} : ∀ (xs : List Slot) (m : Mem), .init b ∈ xs →
    b ∈ (m.dropSlice xs).2.out
  | [], _, h => by simp at h
  | x :: xs, m, h => by
    rw [Mem.dropSlice_cons]
    rcases List.mem_cons.mp h with rfl | h
    · exact Mem.dropSlice_mono xs _ (Mem.dropId_mem _ m)
    · exact Mem.dropSlice_complete xs _ h

theorem Mem.dropLoop_mono {b : Nat} : ∀ (xs : List Slot) (m : Mem), b ∈ m.out →
    b ∈ (m.dropLoop xs).2.out
  | [], _, h => h
  | x :: xs, m, h => by
    rw [Mem.dropLoop_cons]
    split
    · exact Mem.dropSlot_mono x h
    · exact Mem.dropLoop_mono xs _ (Mem.dropSlot_mono x h)

theorem Mem.dropLoop_complete {b : Nat} : ∀ (xs : List Slot) (m : Mem), (m.dropLoop xs).1 = false →
    .init b ∈ xs → b ∈ (m.dropLoop xs).2.out
  | [], _, _, h => by simp at h
  | x :: xs, m, hp, h => by
    rw [Mem.dropLoop_cons] at hp ⊢
    split at hp
    · cases hp
    · rename_i hq
      rw [if_neg hq]
      rcases List.mem_cons.mp h with rfl | h
      · exact Mem.dropLoop_mono xs _ (Mem.dropId_mem _ m)
      · exact Mem.dropLoop_complete xs _ hp h

theorem Mem.tick_bufs (m : Mem) : m.tick.2.bufs = m.bufs := by
  unfold Mem.tick; split <;> rfl

theorem Mem.dropId_bufs (a : Nat) (m : Mem) : (m.dropId a).2.bufs = m.bufs := by
  unfold Mem.dropId; rw [Mem.tick_bufs]; unfold Mem.markDrop; split <;> rfl

theorem Mem.dropSlot_bufs (x : Slot) (m : Mem) : (m.dropSlot x).2.bufs = m.bufs := by
  cases x
  · rfl
  · exact Mem.dropId_bufs _ m

theorem Mem.dropSlice_bufs : ∀ (xs : List Slot) (m : Mem), (m.dropSlice xs).2.bufs = m.bufs
  | [], _ => rfl
  | x :: xs, m => by
    simp only [Mem.dropSlice]
    rw [Mem.dropSlice_bufs xs, Mem.dropSlot_bufs]

theorem Mem.free_out (b : Nat) (m : Mem) : (m.free b).out = m.out := by
  unfold Mem.free; split <;> rfl

theorem Mem.free_not_mem {b : Nat} {m : Mem} (h : m.bufs.Nodup) : b ∉ (m.free b).bufs := by
  unfold Mem.free; split
  · exact h.not_mem_erase
  · assumption

def ownedIds (s : St) : List Nat :=
  prefL s.v.h ++ (s.v.range 0 s.v.len).filterMap (fun x => match x with | .init a => some a | .uninit => none)

theorem iDrop_complete {s : St} (hp : (iDrop s).1 = false) {a : Nat}
    (ha : .init a ∈ s.v.range 0 s.v.len) : a ∈ (iDrop s).2.mem.out := by
  unfold iDrop at hp ⊢
  simp only [St.onMem_eq] at hp ⊢
  exact Mem.dropLoop_complete _ _ hp ha

theorem tDropVec_complete {o : Vec} {s : St} (hp : (tDropVec o s).1 = false) :
    (∀ a, .init a ∈ o.range 0 o.len → a ∈ (tDropVec o s).2.mem.out) ∧
    (o.h.tracked = true → ∀ p, o.h.pref = .init p → p ∈ (tDropVec o s).2.mem.out) ∧
    (s.mem.bufs.Nodup → o.h.buf ∉ (tDropVec o s).2.mem.bufs) := by
  unfold tDropVec at hp ⊢
  simp only [St.onMem_eq, St.withMem] at hp ⊢
  by_cases h1 : (Mem.dropSlice (o.range 0 o.len) s.mem).1 = true
  · simp [h1] at hp
  · simp only [h1, Bool.false_eq_true, if_false] at hp ⊢
    by_cases h2 : o.h.tracked = true
    · simp only [h2, if_true] at hp ⊢
      by_cases h3 : (Mem.dropSlot o.h.pref (Mem.dropSlice (o.range 0 o.len) s.mem).2).1 = true
      · simp [h3] at hp
      · simp only [h3, Bool.false_eq_true, if_false]
        refine ⟨fun a ha => ?_, fun _ p hpp => ?_, fun hnd => ?_⟩
        · rw [Mem.free_out]
          cases hpr : o.h.pref with
          | uninit => simpa [Mem.dropSlot, Mem.emit] using Mem.dropSlice_complete _ s.mem ha
          | init p => exact Mem.dropId_mono (Mem.dropSlice_complete _ s.mem ha)
        · rw [Mem.free_out, hpp]; exact Mem.dropId_mem _ _
        · exact Mem.free_not_mem (by rw [Mem.dropSlot_bufs, Mem.dropSlice_bufs]; exact hnd)
    · simp only [h2, Bool.false_eq_true, if_false]
      refine ⟨fun a ha => ?_, fun h => h.elim, fun hnd => ?_⟩
      · rw [Mem.free_out]; exact Mem.dropSlice_complete _ s.mem ha
      · exact Mem.free_not_mem (by rw [Mem.dropSlice_bufs]; exact hnd)


theorem count_outId (a : Nat) : ∀ (tr : List Ev),
    (tr.filterMap Ev.outId).count a = tr.count (.drop a) + tr.count (.ret a)
  | [] => rfl
  | e :: tr => by
    have ih := count_outId a tr
    cases e <;> simp [List.filterMap_cons, Ev.outId, List.count_cons, ih] <;> omega

/-- After the container has been dropped at the end of a history that kept the no-leak invariant,
every id created so far is out: dropped or handed to the caller, and (ownership invariant) once. -/
theorem all_out_after_drop {s : St} (h : OwnF s) (hal : s.v.h.alive = true) :
    let s' := (step none .dropVec s).2
    (∀ a, a < s'.mem.next → (s'.mem.trace.filterMap Ev.outId).count a = 1) ∧
    (∀ e ∈ s'.mem.trace, ∀ a, e.newId = some a → a < s'.mem.next) := by
  intro s'
  have h' : OwnF s' := step_ownF .dropVec h rfl
  have hdead : s'.v.len = 0 ∧ s'.v.h.alive = false := by
    show (step none .dropVec s).2.v.len = 0 ∧ (step none .dropVec s).2.v.h.alive = false
    unfold step
    simp only [hal, if_true]
    by_cases ht : s.v.h.thin = true
    · simp [ht, tStep, liftB, tDrop]
    · simp [ht, iStep, liftB, iDrop]
  obtain ⟨L, hv, e4⟩ := h'.elim
  have hL : L = [] := List.eq_nil_of_length_eq_zero (by rw [← hv.1]; exact hdead.1)
  have hp : prefL s'.v.h = [] := by simp [prefL, hdead.2]
  subst hL
  refine ⟨fun a ha => e4.count_out_eq_one ?_, e4.created⟩
  rcases (e4.full rfl).2 a ha with h1 | h1
  · simp [hp] at h1
  · exact h1
