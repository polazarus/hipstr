/-
What it means for the `freeBuf` and `write` events of a step to be justified by the state the
step leaves behind.  `CoreHeapFacts.lean` proves it of every operation, from the buffer ledger.
-/
import HipVerif.Model.Core

namespace HipVerif.Core

structure BufInv (S : State) : Prop where
  fresh : ∀ i x, getI S i = some x → x.buf < S.nextBuf
  distinct : ∀ i j x y, getI S i = some x → getI S j = some y → i ≠ j →
    x.live = true → y.live = true → x.buf ≠ y.buf
  datacap : ∀ i x, getI S i = some x → x.live = true → x.data.length ≤ x.cap

def EvOk (S : State) : Event → Prop
  | .freeBuf b => b < S.nextBuf ∧ ∀ j y, getI S j = some y → y.live = true → y.buf ≠ b
  | .write b lo hi => b < S.nextBuf ∧ lo ≤ hi ∧
      ∀ j y, getI S j = some y → y.live = true → y.buf = b → hi ≤ y.cap
  | _ => True

def AllEvOk (S : State) (ev : List Event) : Prop := ∀ e, e ∈ ev → EvOk S e

def BufLe (S1 S2 : State) : Prop :=
  S1.nextBuf ≤ S2.nextBuf ∧ ∀ j y, getI S2 j = some y → y.live = true →
    (∃ x, getI S1 j = some x ∧ x.live = true ∧ x.buf = y.buf ∧ x.cap = y.cap) ∨ S1.nextBuf ≤ y.buf

def Audit (s S : State) (ev : List Event) : Prop := BufLe s S ∧ AllEvOk S ev

theorem audit_bump (s : State) (n : Nat) (hn : s.nextBuf ≤ n) : Audit s { s with nextBuf := n } [] :=
  ⟨⟨hn, fun _ y hy hl => Or.inl ⟨y, hy, hl, rfl, rfl⟩⟩, fun _ h => by cases h⟩

end HipVerif.Core
