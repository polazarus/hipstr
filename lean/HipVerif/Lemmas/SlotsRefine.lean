/-
The slot-level model (Model/Slots*.lean, C14/C15) computes the contents that the list-level model
(Model/Vecs.lean, C13) computes: the abstraction `absL`, and what the slot operations shared by
both vector kinds (or used as parts of others) return and leave behind on a fault-free run.
-/
import HipVerif.Lemmas.SlotsStep
import HipVerif.Lemmas.Vecs
namespace HipVerif.Slots

variable {fl : Bool}

def absL (s : St) : List Nat :=
  (s.v.slots.take s.v.len).filterMap (fun x => match x with | .init a => some a | .uninit => none)

theorem filterMap_init (L : List Nat) :
    (L.map Slot.init).filterMap (fun x => match x with | .init a => some a | .uninit => none) = L := by
  induction L with
  | nil => rfl
  | cons a L ih => simp [ih]

theorem absL_of_view {s : St} {L : List Nat} (h : LocalVec s.v L) : absL s = L := by
  obtain ⟨e1, rest, e2⟩ := h
  unfold absL
  rw [e2, e1, List.take_left' (by simp)]
  exact filterMap_init L

theorem OwnL.view {s loc locB} (h : OwnL fl s loc locB) : LocalVec s.v (absL s) := by
  obtain ⟨L, rest, e1, e2, -, -⟩ := h
  have hv : LocalVec s.v L := ⟨e1, rest, e2⟩
  rw [absL_of_view hv]; exact hv

theorem Mem.dropId_next (a : Nat) (m : Mem) : (m.dropId a).2.next = m.next := by
  unfold Mem.dropId Mem.tick Mem.markDrop
  split <;> split <;> rfl

theorem iPop_spec {s : St} {L : List Nat} (hv : LocalVec s.v L) :
    (iPop s).1 = (match L.getLast? with | none => .none | some a => .some a) ∧
    Post s (iPop s).2 L.dropLast := by
  unfold iPop
  rw [hv.1]
  rcases eq_nil_or_snoc L with rfl | ⟨M, z, rfl⟩
  · simp only [List.length_nil, if_true]
    exact ⟨rfl, Post.same hv rfl⟩
  · have hne : (M ++ [z]).length ≠ 0 := by simp
    rw [if_neg hne]
    have hg : s.v.get ((M ++ [z]).length - 1) = .init z := by
      rw [hv.get (i := (M ++ [z]).length - 1) (by simp)]; simp
    simp only [St.onMem_eq, hg, Mem.readMove]
    refine ⟨by simp, ?_⟩
    have := hv.setLen_take ((M ++ [z]).length - 1) (by omega)
    simp only [List.length_append, List.length_cons, List.length_nil, Nat.add_sub_cancel,
      List.take_left', List.dropLast_concat] at this ⊢
    have hl : s.v.len - 1 = M.length := by rw [hv.1]; simp
    exact ⟨by simpa [St.setLen, hl] using this, rfl, rfl⟩

theorem truncate_post {s : St} {L : List Nat} {d : List Slot → Mem → Bool × Mem}
    (hd : ∀ xs m, m.budget = none → (d xs m).1 = false ∧ (d xs m).2.budget = none)
    (hv : LocalVec s.v L) (hb : s.mem.budget = none) {n : Nat} (hn : n ≤ L.length)
    (xs : List Slot) :
    ((s.setLen n).onMem (d xs)).1 = false ∧ Post s ((s.setLen n).onMem (d xs)).2 (L.take n) ∧
      ((s.setLen n).onMem (d xs)).2.mem.budget = none :=
  ⟨(hd xs s.mem hb).1, ⟨hv.setLen_take n hn, rfl, rfl⟩, (hd xs s.mem hb).2⟩

theorem iTruncate_spec {s : St} {L : List Nat} (n : Nat) (hv : LocalVec s.v L)
    (hb : s.mem.budget = none) :
    (iTruncate n s).1 = false ∧ Post s (iTruncate n s).2 (L.take n) ∧
      (iTruncate n s).2.mem.budget = none := by
  unfold iTruncate
  rw [hv.1]
  split
  · exact truncate_post Mem.dropLoop_of_none hv hb (by omega) _
  · rw [List.take_of_length_le (by omega)]
    exact ⟨rfl, Post.same hv rfl, hb⟩

theorem tTruncate_spec {s : St} {L : List Nat} (n : Nat) (hv : LocalVec s.v L)
    (hb : s.mem.budget = none) :
    (tTruncate n s).1 = false ∧ Post s (tTruncate n s).2 (L.take n) ∧
      (tTruncate n s).2.mem.budget = none := by
  unfold tTruncate
  rw [hv.1]
  split
  · rw [List.take_of_length_le (by omega)]
    exact ⟨rfl, Post.same hv rfl, hb⟩
  · exact truncate_post Mem.dropSlice_of_none hv hb (by omega) _

theorem mkVals_spec : ∀ (n : Nat) (s : St),
    (mkVals n s).1 = List.range' s.mem.next n ∧ (mkVals n s).2.v = s.v ∧
      (mkVals n s).2.mem.next = s.mem.next + n ∧ (mkVals n s).2.mem.budget = s.mem.budget ∧
      (mkVals n s).2.mem.out = s.mem.out
  | 0, _ => ⟨rfl, rfl, rfl, rfl, rfl⟩
  | n + 1, s => by
    obtain ⟨h1, h2, h3, h4, h5⟩ := mkVals_spec n (s.onMem Mem.mkVal).2
    simp only [mkVals]
    refine ⟨?_, h2, ?_, h4, h5⟩
    · rw [h1]; simp [List.range'_succ, Mem.mkVal]
    · rw [h3]; simp [Mem.mkVal]; omega

theorem iExtIter_spec : ∀ (k : Nat) (s : St) (L : List Nat), LocalVec s.v L →
    s.mem.budget = none →
    (iExtIter k s).1 = decide (s.v.cap < L.length + k) ∧
    Post s (iExtIter k s).2 (L ++ List.range' s.mem.next (min k (s.v.cap - L.length))) ∧
    (iExtIter k s).2.mem.budget = none
  | 0, s, L, hv, hb => by
    unfold iExtIter
    have hle := hv.len_le
    refine ⟨by simp [(Mem.tick_of_none hb).1]; omega, ?_, (Mem.tick_of_none hb).2⟩
    simpa using Post.same hv (s' := (s.onMem Mem.tick).2) rfl
  | k + 1, s, L, hv, hb => by
    unfold iExtIter
    have hle := hv.len_le
    obtain ⟨m', e1, e2, e3, e4⟩ := Mem.genVal_of_none hb
    simp only [St.onMem_eq, e1, hv.1]
    by_cases hc : L.length < s.v.cap
    · rw [if_pos hc]
      have hp := St.store_post (s := { s with mem := m' }) s.mem.next hv hc
      have hmem : (St.store s.mem.next { s with mem := m' }).mem = m' := by
        rw [St.store_eq (by simp only; rw [hv.1]; exact hc)]
      obtain ⟨r1, r2, r3⟩ := iExtIter_spec k _ (L ++ [s.mem.next]) hp.view (by rw [hmem]; exact e2)
      rw [hp.cap] at r1 r2
      refine ⟨by rw [r1]; simp; omega, ⟨?_, by rw [r2.cap, hp.cap], by rw [r2.hdr, hp.hdr]⟩, r3⟩
      have := r2.view
      rw [hmem, e4] at this
      have hmin : min (k + 1) (s.v.cap - L.length) = min k (s.v.cap - (L.length + 1)) + 1 := by
        omega
      rw [hmin, List.range'_succ]
      simpa using this
    · rw [if_neg hc]
      have h0 : s.v.cap - L.length = 0 := by omega
      refine ⟨by simp; omega, ?_, Mem.dropId_budget_of_none e2⟩
      rw [h0]
      have : Post s ({ mem := (Mem.dropId s.mem.next m').2, v := s.v } : St) L := Post.same hv rfl
      simpa using this

theorem St.chk_out (c : Bool) (s : St) : (s.chk c).mem.out = s.mem.out := by
  unfold St.chk; split <;> rfl

theorem cloneIntoLocal_quiet : ∀ (M : List Nat) (o : Vec) (s : St), s.mem.budget = none →
    (∀ a ∈ M, a ∉ s.mem.out) →
    (cloneIntoLocal (M.map .init) o s).1 = false ∧ (cloneIntoLocal (M.map .init) o s).2.2.v = s.v ∧
      (cloneIntoLocal (M.map .init) o s).2.2.mem.budget = none
  | [], _, _, hb, _ => ⟨rfl, rfl, hb⟩
  | a :: as, o, s, hb, hm => by
    simp only [List.map_cons, cloneIntoLocal]
    obtain ⟨m', e1, e2, e3, e4⟩ := Mem.cloneId_of_none a hb
    have hcs : Mem.cloneSlot (.init a) s.mem = (some s.mem.next, m') := by
      simp only [Mem.cloneSlot, if_neg (hm a (List.mem_cons_self ..)), e1]
    simp only [St.onMem_eq, hcs]
    obtain ⟨r1, r2, r3⟩ := cloneIntoLocal_quiet as (o.store s.mem.next)
      (({ s with mem := m' } : St).chk (decide (o.len < o.cap)))
      (by rw [St.chk_budget]; exact e2)
      (fun c hc => by rw [St.chk_out]; simp only; rw [e3]; exact hm c (List.mem_cons_of_mem _ hc))
    exact ⟨r1, by rw [r2, St.chk_v], r3⟩

theorem St.tick_quiet {s : St} (hb : s.mem.budget = none) :
    (s.onMem Mem.tick).1 = false ∧ (s.onMem Mem.tick).2.v = s.v ∧
      (s.onMem Mem.tick).2.mem.next = s.mem.next ∧ (s.onMem Mem.tick).2.mem.budget = none ∧
      (s.onMem Mem.tick).2.mem.out = s.mem.out := by
  simp [St.onMem_eq, Mem.tick, hb]

end HipVerif.Slots
