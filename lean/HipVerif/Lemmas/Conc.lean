import HipVerif.Lemmas.ConcStep

/-!
# C04: the theorems for an ARBITRARY protocol description

Everything here is stated for every `Cfg` (ceiling + protocol description) that satisfies the
named side conditions (`ShapeOk` for the counting half, `ProtoOk` for the happens-before half),
every number of threads, every initial distribution of handles, every schedule, every stale-read
and spurious-failure choice, every program (a thread may start any action at any time).
`Props/C04.lean` instantiates them with the generated description `Gen.Atomics.proto`.
-/

namespace HipVerif.Model.Conc
open HipVerif.Model

structure ProtoOk (c : Cfg) : Prop where
  /-- every decrement is one atomic `fetch_sub(1)` followed by a test of the old value -/
  decr_is_rmw : decrShape c.proto = true
  decr_is_release : decrIsRelease c.proto = true
  decr_overflow_has_acquire_fence : decrAcquires c.proto = true
  /-- every increment is a compare-exchange loop -/
  incr_is_rmw : incrShape c.proto = true
  incr_bound_le_ceil : incrBoundOk c.ceil c.proto = true
  is_unique_shape : uniqShape c.proto = true
  is_unique_has_acquire_fence : uniqAcquires c.proto = true
  get_is_load : getShape c.proto = true

theorem ProtoOk.shapeOk {c : Cfg} (h : ProtoOk c) : ShapeOk c :=
  ⟨h.decr_is_rmw, h.incr_is_rmw, h.incr_bound_le_ceil, h.is_unique_shape, h.get_is_load⟩

theorem ProtoOk.ordOk {c : Cfg} (h : ProtoOk c) : OrdOk c :=
  ⟨h.decr_is_release, h.decr_overflow_has_acquire_fence, h.is_unique_has_acquire_fence⟩

/-- `s` is reachable from the initial state where thread `i` holds `hs[i]` handles. -/
def Reachable (c : Cfg) (hs : List Nat) (s : State) : Prop :=
  1 ≤ hs.sum ∧ hs.sum ≤ c.ceil + 1 ∧ ∃ ls, run c (init hs) ls = some s

theorem Reachable.wf1 {c : Cfg} {hs : List Nat} {s : State} (hok : ShapeOk c)
    (hr : Reachable c hs s) : Wf1 c s := by
  obtain ⟨h1, h2, ls, hrun⟩ := hr
  obtain ⟨sh⟩ := Shape.ofOk hok
  exact (run_wf sh (Wf1.init hs h1 h2) ls hrun).1

theorem Reachable.wf2 {c : Cfg} {hs : List Nat} {s : State} (hok : ProtoOk c)
    (hr : Reachable c hs s) : Wf2 c s := by
  obtain ⟨h1, h2, ls, hrun⟩ := hr
  obtain ⟨sh⟩ := Shape.ofOk hok.shapeOk
  exact (run_wf sh (Wf1.init hs h1 h2) ls hrun).2 (Ords.ofOk sh hok.ordOk) (Wf2.init hs)

/-! ## Counting half (needs only the shape conditions) -/

/-- An unpinned holder cannot read a stale `0`. -/
theorem Wf1.no_stale_zero {c : Cfg} {s : State} (h : Wf1 c s) {t : Nat} {th : Thread}
    (ht : s.thr[t]? = some th) (ho : 1 ≤ owned th) (hnp : pinned s t = false)
    {i : Nat} {m : Msg} (hi : s.hist[i]? = some m) (hc : th.coh ≤ i) : 1 ≤ m.val := by
  rcases Nat.eq_zero_or_pos m.val with hz | hz
  · rcases h.J i m hi hz t th ht ho with h1 | ⟨w, wh, hw, hm, _⟩
    · omega
    · exact absurd hm (not_mem_of_not_pinned hnp hw)
  · exact hz

/-- A borrowed reference never dangles: its lender still holds a handle and nothing is freed. -/
theorem Wf1.lent_alive {c : Cfg} {s : State} (h : Wf1 c s) {w : Nat} {wh : Thread}
    (hw : s.thr[w]? = some wh) {u : Nat} (hu : u ∈ wh.refs) :
    (∃ uh, s.thr[u]? = some uh ∧ 1 ≤ uh.handles) ∧ s.freed = 0 :=
  ⟨h.Rf w wh u hw hu, (h.user_facts hw (Or.inr (List.ne_nil_of_mem hu))).1⟩

/-- A thread whose `is_unique` is about to return `true` holds the only handle and no reference is
out. -/
theorem Wf1.unique_sound {c : Cfg} {s : State} (h : Wf1 c s) {t : Nat} {th : Thread}
    (ht : s.thr[t]? = some th)
    {k : Kont} {code : List AStep} {old : Nat} (hpc : th.pc = some ⟨k, code, old⟩)
    (hk : k = .mutate ∨ k = .unwrap) (hret : localRet code = some (.bool true)) :
    total s = 1 ∧ th.handles = 1 ∧ s.freed = 0 ∧
      (∀ (u : Nat) uh, u ≠ t → s.thr[u]? = some uh → owned uh = 0) ∧
      (∀ (u : Nat) uh, s.thr[u]? = some uh → uh.refs = []) := by
  have hx : excl th = true := by rw [excl_uniq hk hpc, hret]; rfl
  obtain ⟨h1, h2, h3⟩ := h.X t th ht hx
  have hown : owned th = 1 := by rw [h2, exclOwn_uniq hk hpc]
  have hh : th.handles = 1 := owned_uniq hk hpc ▸ hown
  exact ⟨(total_eq_owned s t th ht fun u uh hu huh => (h1 u uh hu huh).1).trans hown, hh, h3,
    fun u uh hu huh => (h1 u uh hu huh).1, fun u uh huh => h.excl_no_refs ht hx huh⟩

theorem Wf1.all_dropped_freed {c : Cfg} {s : State} (h : Wf1 c s) (h0 : total s = 0)
    (hidle : ∀ (t : Nat) th, s.thr[t]? = some th → th.pc = none) : s.freed = 1 := by
  rcases h.L h0 with hf | ⟨t, th, ht, hx⟩
  · exact hf
  · rw [excl_idle (hidle t th ht)] at hx; cases hx

/-! ## Happens-before half (needs the ordering conditions too) -/

/-- A read started in any state satisfying both invariants: every write happens-before it, and
it does not race. -/
theorem read_sees_last_write {c : Cfg} (sh : Shape c) (ho : Ords sh) {s s' : State} (h1 : Wf1 c s)
    (h2 : Wf2 c s) {t : Nat} (hstep : step c s (.start t .read) = some s') :
    ∃ th th', s.thr[t]? = some th ∧ s'.thr[t]? = some th' ∧ th'.res = th.res ++ [s.pval] ∧
      (∀ u : Nat, vat s.wr u ≤ vat th.view u) ∧ s'.race = false := by
  have hrace := ((step_wf sh h1 _ hstep).2 ho h2).race
  have hstart : startStep c s t .read = some s' := hstep
  obtain ⟨th, ht, _, hcan, rfl⟩ := startStep_some hstart
  exact ⟨th, { tick th t with res := th.res ++ [s.pval] }, ht, get_set_self ht, rfl,
    h2.R t th ht (uses_of_handles (canUse_iff.1 hcan)), hrace⟩

end HipVerif.Model.Conc
