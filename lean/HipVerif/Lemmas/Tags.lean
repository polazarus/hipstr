/-
The tag byte of the three representations (C07: `Option<Hip*>` has a niche because the first
byte of a value is never zero), over the constants GENERATED from src/bytes/raw.rs.

* inline:    first byte = `(len << TAG_BITS) | TAG_INLINE`   (`TaggedU8::new`), `len ≤ INLINE_CAPACITY`
* borrowed:  first byte = `TAG_BORROWED`
* allocated: first word = `addr | TAG_ALLOCATED` with `addr` the address of a `Box<Inner>`
             (aligned to at least 4), so the first byte (little endian) is `(addr | 3) % 256`
-/
import HipVerif.Gen.Consts

namespace HipVerif.Tags
open HipVerif.Gen.Consts

def inlineByte (len : Nat) : Nat := (len <<< inlineShift) ||| inlineTag
def borrowedByte : Nat := tagBorrowed
def allocatedWord (addr : Nat) : Nat := addr ||| tagAllocated

/-- tag extraction as in `HipByt::tag`: `byte & MASK` -/
def tagOf (byte : Nat) : Nat := byte &&& mask

theorem tags_distinct_nonzero :
    tagInline ≠ 0 ∧ tagBorrowed ≠ 0 ∧ tagAllocated ≠ 0 ∧
    tagInline ≠ tagBorrowed ∧ tagInline ≠ tagAllocated ∧ tagBorrowed ≠ tagAllocated ∧
    tagInline ≤ mask ∧ tagBorrowed ≤ mask ∧ tagAllocated ≤ mask ∧ mask = 2 ^ tagBits - 1 := by
  decide

theorem inline_byte_ok : ∀ len, len ≤ inlineCapacity →
    inlineByte len < 256 ∧ inlineByte len ≠ 0 ∧ tagOf (inlineByte len) = tagInline ∧
    inlineByte len >>> inlineShift = len := by
  have h : ∀ len, len < inlineCapacity + 1 →
      (inlineByte len < 256 ∧ inlineByte len ≠ 0 ∧ tagOf (inlineByte len) = tagInline ∧
        inlineByte len >>> inlineShift = len) := by decide
  intro len hl
  exact h len (Nat.lt_succ_of_le hl)

theorem borrowed_byte_ok : borrowedByte ≠ 0 ∧ tagOf borrowedByte = tagBorrowed := by decide

theorem allocated_word_ok (addr : Nat) (ha : addr % 4 = 0) :
    (allocatedWord addr) % 256 ≠ 0 ∧ tagOf ((allocatedWord addr) % 256) = tagAllocated := by
  obtain ⟨k, rfl⟩ : ∃ k, addr = 4 * k := ⟨addr / 4, by omega⟩
  have hor : (4 * k) ||| 3 = 4 * k + 3 := by
    have : 4 * k = k <<< 2 := by simp [Nat.shiftLeft_eq, Nat.mul_comm]
    rw [this, ← Nat.shiftLeft_add_eq_or_of_lt (by decide : 3 < 2 ^ 2)]
  have hmod : (4 * k + 3) % 256 % 4 = 3 := by omega
  -- the generated constants this proof is about
  have hc : tagAllocated = 3 ∧ mask = 3 := ⟨rfl, rfl⟩
  unfold allocatedWord tagOf
  rw [hc.1, hc.2]
  refine ⟨?_, ?_⟩
  · rw [hor]; omega
  · rw [hor]
    have : ∀ n, n &&& 3 = n % 4 := fun n => by
      have := Nat.and_two_pow_sub_one_eq_mod n 2
      simpa using this
    rw [this]; exact hmod

end HipVerif.Tags
