/-
  Lemmas about the serialisation model (`Model/Codec.lean`) for property C16.
  All statements are generic in the table rows and in `valid`; `Props/C16.lean` instantiates
  them with the generated table after checking the row predicates by `decide`.
-/
import HipVerif.Model.Codec

namespace HipVerif.Codec
open HipVerif.Spec.Codec (Token SerOut collect leBytes fromLe)

theorem length_leBytes (k n : Nat) : (leBytes k n).length = k := by
  induction k generalizing n with
  | zero => rfl
  | succ k ih => simp [leBytes, ih]

theorem fromLe_leBytes (k n : Nat) (h : n < 256 ^ k) : fromLe (leBytes k n) = n := by
  induction k generalizing n with
  | zero => simp at h; simp [leBytes, fromLe]; omega
  | succ k ih =>
    have h1 : n / 256 < 256 ^ k := by
      rw [Nat.pow_succ] at h
      exact Nat.div_lt_of_lt_mul (by rw [Nat.mul_comm]; exact h)
    simp only [leBytes, fromLe, ih _ h1]
    have : (UInt8.ofNat (n % 256)).toNat = n % 256 := by
      simp [UInt8.toNat_ofNat']
    rw [this]; omega

theorem leBytes_fromLe (l : List UInt8) : leBytes l.length (fromLe l) = l := by
  induction l with
  | nil => rfl
  | cons b bs ih =>
    have hb := UInt8.toNat_lt b
    have h1 : (b.toNat + 256 * fromLe bs) % 256 = b.toNat := by omega
    have h2 : (b.toNat + 256 * fromLe bs) / 256 = fromLe bs := by omega
    simp only [List.length_cons, leBytes, fromLe, h1, h2, ih]
    simp

theorem readPrefix_le (k n : Nat) (h : n < 256 ^ k) (r : List UInt8) :
    readPrefix k (leBytes k n ++ r) = some (n, r) := by
  have hl := length_leBytes k n
  simp [readPrefix, hl, fromLe_leBytes k n h]

theorem readPrefix_inv {k : Nat} {input rest : List UInt8} {n : Nat}
    (h : readPrefix k input = some (n, rest)) : input = leBytes k n ++ rest := by
  unfold readPrefix at h
  split at h
  · cases h
  · rename_i hl
    cases h
    have := leBytes_fromLe (input.take k)
    rw [List.length_take, Nat.min_eq_left (Nat.le_of_not_lt hl)] at this
    rw [this, List.take_append_drop]

theorem readPrefix_length {k : Nat} {input rest : List UInt8} {n : Nat}
    (h : readPrefix k input = some (n, rest)) : input.length = k + rest.length := by
  rw [readPrefix_inv h, List.length_append, length_leBytes]

theorem maxOf_cons (r : Nat) (rs : List Nat) : maxOf (r :: rs) = max r (maxOf rs) := rfl

theorem growCap_le (c : Nat) : growCap c ≤ 2 * c + 8 := by
  unfold growCap; omega

theorem growCap_gt (c : Nat) : c < growCap c := by
  unfold growCap; omega

theorem push_len (v : VecSt) (b : UInt8) : (v.push b).len = v.len + 1 := by
  unfold VecSt.push; split <;> rfl

theorem push_bytes (v : VecSt) (b : UInt8) : (v.push b).bytes = v.bytes ++ [b] := by
  unfold VecSt.push VecSt.bytes; split <;> simp

/-- Invariant of a vector created by `with_capacity(c0)` and filled by `push`: every request so far
is the initial one or at most `2 * len + 6` (a `push` grows only a full vector, to at most
`2 * len + 8` for the new length `len + 1`). -/
def VInv (c0 : Nat) (v : VecSt) : Prop := maxOf v.reqs ≤ max c0 (2 * v.len + 6)

theorem max_mono {a b : Nat} (c : Nat) (h : a ≤ b) : max c a ≤ max c b :=
  Nat.max_le.mpr ⟨Nat.le_max_left _ _, Nat.le_trans h (Nat.le_max_right _ _)⟩

theorem VInv_withCapacity (c : Nat) : VInv c (VecSt.withCapacity c) :=
  Nat.le_trans (Nat.max_le.mpr ⟨Nat.le_refl c, Nat.zero_le c⟩) (Nat.le_max_left _ _)

theorem VInv_push {c0 : Nat} {v : VecSt} (h : VInv c0 v) (b : UInt8) : VInv c0 (v.push b) := by
  unfold VInv at h ⊢
  rw [push_len]
  have h' : maxOf v.reqs ≤ max c0 (2 * (v.len + 1) + 6) := Nat.le_trans h (max_mono c0 (by omega))
  unfold VecSt.push
  split
  · rename_i heq
    have hg : growCap v.cap ≤ 2 * (v.len + 1) + 6 := Nat.le_trans (growCap_le v.cap) (by omega)
    exact Nat.max_le.mpr ⟨Nat.le_trans hg (Nat.le_max_right _ _), h'⟩
  · exact h'

theorem foldl_push {c0 : Nat} (bs : List UInt8) (v : VecSt) :
    (bs.foldl VecSt.push v).bytes = v.bytes ++ bs ∧ (bs.foldl VecSt.push v).len = v.len + bs.length ∧
      (VInv c0 v → VInv c0 (bs.foldl VecSt.push v)) := by
  induction bs generalizing v with
  | nil => exact ⟨(List.append_nil _).symm, rfl, id⟩
  | cons b bs ih =>
    obtain ⟨h1, h2, h3⟩ := ih (v.push b)
    rw [push_bytes, List.append_assoc] at h1
    rw [push_len, Nat.add_assoc, Nat.add_comm 1] at h2
    exact ⟨h1, h2, fun h => h3 (VInv_push h b)⟩

theorem readLoop_eq (n : Nat) (input : List UInt8) (v : VecSt) :
    readLoop n input v =
      ⟨if n ≤ input.length then .ok (v.bytes ++ input.take n, input.drop n) else .error .eof,
       ((input.take n).foldl VecSt.push v).reqs⟩ := by
  induction n generalizing input v with
  | zero => simp [readLoop]
  | succ n ih =>
    cases input with
    | nil => simp [readLoop]
    | cons b rest => simp [readLoop, ih, push_bytes]

theorem readLoop_bound {c0 : Nat} (n : Nat) (input : List UInt8) (v : VecSt) (h : VInv c0 v) :
    maxOf (readLoop n input v).reqs ≤ max c0 (2 * (v.len + input.length) + 6) := by
  obtain ⟨_, hl, hi⟩ := foldl_push (c0 := c0) (input.take n) v
  have := hi h
  rw [VInv, hl, List.length_take] at this
  rw [readLoop_eq]
  exact Nat.le_trans this (max_mono c0 (by omega))

/-- The safe shape of the bytes reader: `u32` prefix, per-byte loop, reservation `min(len, c)` with
`c ≤ limit`. -/
def ShapeOk (limit : Nat) (sh : BorshDe) : Prop :=
  ∃ z c ct, sh = .reader 4 z (.minLen c) true ct ∧ c ≤ limit

theorem borshShapeRowOk_cases {limit : Nat} {r : BorshDeRow} (h : borshShapeRowOk limit r = true) :
    (r.kind = .byt ∧ ShapeOk limit r.shape) ∨ (r.kind = .str ∧ r.shape = .viaBytThenValidate) := by
  unfold borshShapeRowOk at h
  split at h
  · rename_i k z c p ct hs
    simp only [Bool.and_eq_true, beq_iff_eq, decide_eq_true_eq] at h
    obtain ⟨⟨⟨hk, rfl⟩, rfl⟩, hc⟩ := h
    exact .inl ⟨hk, hs ▸ ⟨z, c, ct, rfl, hc⟩⟩
  · cases h
  · rename_i hs
    exact .inr ⟨by simpa using h, hs⟩
  · cases h
  · cases h

/-- The `len == 0` shortcut of the reader is the general case at `len = 0`. -/
theorem deShape_result {limit : Nat} {sh : BorshDe} (hs : ShapeOk limit sh) (input : List UInt8) :
    (deShape sh input).result =
      match readPrefix 4 input with
      | none => .error .eof
      | some (len, rest) =>
        if len ≤ rest.length then .ok (rest.take len, rest.drop len) else .error .eof := by
  obtain ⟨z, c, ct, rfl, _⟩ := hs
  simp only [deShape]
  cases readPrefix 4 input with
  | none => rfl
  | some lr =>
    obtain ⟨len, rest⟩ := lr
    dsimp only
    split
    · rename_i h0
      have : len = 0 := by simpa using (Bool.and_eq_true_iff.mp h0).2
      subst this
      rfl
    · rw [readLoop_eq]
      rfl

theorem deShape_roundtrip {limit : Nat} {sh : BorshDe} (hs : ShapeOk limit sh)
    (b r : List UInt8) (hb : b.length < 2 ^ 32) :
    (deShape sh (ser b ++ r)).result = .ok (b, r) := by
  rw [deShape_result hs, ser, List.append_assoc, readPrefix_le 4 b.length (by simpa using hb)]
  simp

theorem deShape_inv {limit : Nat} {sh : BorshDe} (hs : ShapeOk limit sh)
    (input c rest : List UInt8) (h : (deShape sh input).result = .ok (c, rest)) :
    input = ser c ++ rest := by
  rw [deShape_result hs] at h
  split at h
  · cases h
  · rename_i len rest0 hp
    split at h
    · rename_i hle
      cases h
      rw [readPrefix_inv hp, ser, List.length_take, Nat.min_eq_left hle, List.append_assoc,
        List.take_append_drop]
    · cases h

theorem deShape_err {limit : Nat} {sh : BorshDe} (hs : ShapeOk limit sh) (input : List UInt8) (e : Err)
    (h : (deShape sh input).result = .error e) : e = .eof := by
  rw [deShape_result hs] at h
  split at h
  · cases h; rfl
  · split at h
    · cases h
    · cases h; rfl

theorem deShape_bound {limit : Nat} {sh : BorshDe} (hs : ShapeOk limit sh)
    (input : List UInt8) : (deShape sh input).maxRequest ≤ limit + 2 * input.length := by
  obtain ⟨z, c, ct, rfl, hc⟩ := hs
  simp only [deShape, DeOut.maxRequest]
  split
  · exact Nat.zero_le _
  · rename_i len rest hp
    have hl := readPrefix_length hp
    split
    · exact Nat.zero_le _
    · refine Nat.le_trans (readLoop_bound len rest _ (VInv_withCapacity (min len c))) ?_
      have := Nat.min_le_right len c
      exact Nat.max_le.mpr ⟨by omega, by simp only [VecSt.withCapacity]; omega⟩

/-- `HipStr`'s reader on top of the bytes reader: the same bytes, rejected unless UTF-8. -/
def DeOut.validate (valid : List UInt8 → Bool) (o : DeOut) : DeOut :=
  match o.result with
  | .ok (b, rest) => if valid b then ⟨.ok (b, rest), o.reqs⟩ else ⟨.error .invalidData, o.reqs⟩
  | .error e => ⟨.error e, o.reqs⟩

theorem DeOut.validate_reqs (valid : List UInt8 → Bool) (o : DeOut) : (o.validate valid).reqs = o.reqs := by
  unfold DeOut.validate
  split
  · split <;> rfl
  · rfl

theorem DeOut.validate_ok_iff (valid : List UInt8 → Bool) (o : DeOut) (s rest : List UInt8) :
    (o.validate valid).result = .ok (s, rest) ↔ o.result = .ok (s, rest) ∧ valid s = true := by
  unfold DeOut.validate
  split
  · rename_i b r hres
    rw [hres]
    split
    · rename_i hv
      exact ⟨fun h => by cases h; exact ⟨rfl, hv⟩, fun h => h.1⟩
    · rename_i hv
      exact ⟨fun h => (nomatch h), fun h => by cases h.1; exact absurd h.2 hv⟩
  · rename_i e hres
    rw [hres]
    exact ⟨fun h => (nomatch h), fun h => (nomatch h.1)⟩

theorem DeOut.validate_err (valid : List UInt8 → Bool) (o : DeOut) (e : Err)
    (h : (o.validate valid).result = .error e) : o.result = .error e ∨ e = .invalidData := by
  unfold DeOut.validate at h
  split at h
  · split at h
    · cases h
    · cases h; exact .inr rfl
  · rename_i e' hres
    cases h
    exact .inl hres

theorem borshShape_mem {rows : List BorshDeRow} {k : HipKind} {sh : BorshDe}
    (h : borshShape rows k = some sh) : ∃ r ∈ rows, r.kind = k ∧ r.shape = sh := by
  unfold borshShape at h
  cases hf : rows.find? (·.kind == k) with
  | none => simp [hf] at h
  | some r =>
    simp [hf] at h
    exact ⟨r, List.mem_of_find?_eq_some hf, by simpa using List.find?_some hf, h⟩

theorem borshDe_table {limit : Nat} {rows : List BorshDeRow}
    (hok : rows.all (borshDeRowOk limit) = true)
    (hb : (borshShape rows .byt).isSome = true) (hs : (borshShape rows .str).isSome = true) :
    ∃ sh, ShapeOk limit sh ∧ ∀ (valid : List UInt8 → Bool) (input : List UInt8),
      borshDe valid rows .byt input = deShape sh input ∧
      borshDe valid rows .str input = (deShape sh input).validate valid := by
  have rowOk : ∀ r ∈ rows, borshShapeRowOk limit r = true := fun r hr => by
    have := List.all_eq_true.mp hok r hr
    simp only [borshDeRowOk, Bool.and_eq_true] at this
    obtain ⟨⟨hshape, _io⟩, _unsafe⟩ := this
    exact hshape
  obtain ⟨sb, hsb⟩ := Option.isSome_iff_exists.mp hb
  obtain ⟨ss, hss⟩ := Option.isSome_iff_exists.mp hs
  obtain ⟨rb, hmb, hkb, rfl⟩ := borshShape_mem hsb
  obtain ⟨rs, hms, hks, rfl⟩ := borshShape_mem hss
  rcases borshShapeRowOk_cases (rowOk rb hmb) with ⟨_, hshape⟩ | ⟨hk, _⟩
  · rcases borshShapeRowOk_cases (rowOk rs hms) with ⟨hk, _⟩ | ⟨_, hstr⟩
    · rw [hks] at hk; cases hk
    · refine ⟨rb.shape, hshape, fun valid input => ?_⟩
      obtain ⟨z, c, ct, hsh, _⟩ := hshape
      unfold borshDe
      rw [hss, hstr, hsb, hsh]
      exact ⟨rfl, rfl⟩
  · rw [hkb] at hk; cases hk

theorem findBody_mem {ms : List MethodRow} {m : Method} {b : Body} (h : findBody ms m = some b) :
    ∃ r ∈ ms, r.method = m ∧ r.body = b := by
  unfold findBody at h
  cases hf : ms.find? (·.method == m) with
  | none => simp [hf] at h
  | some r =>
    simp [hf] at h
    exact ⟨r, List.mem_of_find?_eq_some hf, by simpa using List.find?_some hf, h⟩

theorem resolve_mem {ms : List MethodRow} {m m' : Method} {b : Body}
    (h : resolve ms m = some (m', b)) :
    (∃ r ∈ ms, r.method = m' ∧ r.body = b) ∧ (m' = m ∨ m.fallback = some m') := by
  unfold resolve at h
  split at h
  · rename_i b0 hb
    cases h
    exact ⟨findBody_mem hb, .inl rfl⟩
  · split at h
    · rename_i m2 hm2
      cases hb : findBody ms m2 with
      | none => simp [hb] at h
      | some b2 =>
        simp [hb] at h
        obtain ⟨rfl, rfl⟩ := h
        exact ⟨findBody_mem hb, .inr hm2⟩
    · cases h

theorem runBody_sound (valid : List UInt8 → Bool) (b : Body) (p c : List UInt8) (br : Bool)
    (h : runBody valid b p = .ok (c, br)) :
    c = p ∧ (b.validates = true → valid p = true) ∧ (br = true → b.hasBorrow = true) := by
  induction b with
  | copy | take => simp [runBody] at h; simp [h, Body.validates]
  | borrow => simp [runBody] at h; simp [h, Body.validates, Body.hasBorrow]
  | validateThen b ih =>
    simp only [runBody] at h
    split at h
    · rename_i hv
      have := ih h
      exact ⟨this.1, fun _ => hv, by simpa [Body.hasBorrow] using this.2.2⟩
    · cases h
  | seq _ => simp [runBody] at h
  | error => simp [runBody] at h

theorem runBody_plain (valid : List UInt8 → Bool) (b : Body) (p : List UInt8)
    (hp : b.plain = true) (hv : b.validates = true → valid p = true) :
    runBody valid b p = .ok (p, b.hasBorrow) := by
  induction b with
  | copy | take | borrow => rfl
  | validateThen b ih =>
    have hvp : valid p = true := hv rfl
    simp only [runBody, hvp, if_true, Body.hasBorrow]
    cases b with
    | validateThen b' =>
      exact ih (by simpa [Body.plain] using hp) (fun _ => hvp)
    | copy | take | borrow => rfl
    | seq _ | error => simp [Body.plain] at hp
  | seq _ | error => simp [Body.plain] at hp

section Visitor
variable {limit : Nat} {v : VisitorRow} (valid : List UInt8 → Bool)

theorem visitorOk_parts (h : visitorOk limit v = true) :
    (v.kind = .byt ∨ v.kind = .str) ∧ (∀ r ∈ v.methods, methodOk limit v r = true) ∧
    (∀ m ∈ (if v.kind == .str then strMethods else bytMethods), answers v m = true) ∧
    (v.borrowsDe = true → borrowsOn v .borrowedStr = true ∧ borrowsOn v .borrowedBytes = true) := by
  simp only [visitorOk, Bool.and_eq_true] at h
  obtain ⟨⟨⟨⟨hkind, _hid⟩, hmethods⟩, hanswers⟩, hborrows⟩ := h
  exact ⟨by simpa using hkind, List.all_eq_true.mp hmethods, List.all_eq_true.mp hanswers,
    fun hb => by simpa [hb] using hborrows⟩

theorem visitorOk_methods (h : visitorOk limit v = true) :
    ∀ r ∈ v.methods, methodOk limit v r = true :=
  (visitorOk_parts h).2.1

theorem visitorOk_kind (h : visitorOk limit v = true) : v.kind = .byt ∨ v.kind = .str :=
  (visitorOk_parts h).1

theorem visitorOk_answers (h : visitorOk limit v = true) :
    ∀ m ∈ (if v.kind == .str then strMethods else bytMethods), answers v m = true :=
  (visitorOk_parts h).2.2.1

theorem visitorOk_borrows (h : visitorOk limit v = true) (hb : v.borrowsDe = true) :
    borrowsOn v .borrowedStr = true ∧ borrowsOn v .borrowedBytes = true :=
  (visitorOk_parts h).2.2.2 hb

theorem fallback_not_borrowed {m m' : Method} (h : m.fallback = some m') :
    m'.isBorrowed = false ∧ m' ≠ .seq ∧ m ≠ .seq ∧ m'.isStr = m.isStr := by
  cases m <;> simp [Method.fallback] at h <;> subst h <;> simp [Method.isBorrowed, Method.isStr]

theorem resolve_data_ok (hv : visitorOk limit v = true) {m m' : Method} {b : Body}
    (hr : resolve v.methods m = some (m', b)) (hm : m ≠ .seq) (hne : b ≠ .error) :
    b.plain = true ∧
    (v.kind = .str → m.isStr = false → b.validates = true) ∧
    (v.kind = .byt → b.validates = false) ∧
    (b.hasBorrow = true → v.borrowsDe = true ∧ m.isBorrowed = true) := by
  obtain ⟨⟨r, hrm, rfl, rfl⟩, hfb⟩ := resolve_mem hr
  have hm' : r.method ≠ .seq ∧ r.method.isStr = m.isStr ∧ (r.method.isBorrowed = true → r.method = m) := by
    rcases hfb with h | hf
    · rw [h]; exact ⟨hm, rfl, fun _ => rfl⟩
    · have := fallback_not_borrowed hf
      exact ⟨this.2.1, this.2.2.2, fun h => by rw [this.1] at h; cases h⟩
  have h := visitorOk_methods hv r hrm
  simp only [methodOk, beq_eq_false_iff_ne.mpr hm'.1, Bool.false_eq_true, if_false, dataBodyOk,
    Bool.and_eq_true, Bool.or_eq_true, Bool.not_eq_true', beq_iff_eq, bne_iff_ne, ne_eq] at h
  obtain ⟨h1, h2 | ⟨⟨hp, hs⟩, hbyt⟩⟩ := h
  · exact absurd h2 hne
  · refine ⟨hp, fun hk hstr => ?_, fun hk => hbyt.resolve_left (fun h => h hk), fun hb => ?_⟩
    · rw [← hm'.2.1] at hstr
      exact (hs.resolve_left (fun h => h.elim (fun h => h hk) (fun h => by rw [hstr] at h; cases h)))
    · have := h1.resolve_left (fun h => by rw [hb] at h; cases h)
      exact ⟨this.1, hm'.2.2 this.2 ▸ this.2⟩

theorem resolve_seq_ok (hv : visitorOk limit v = true) {m' : Method} {b : Body}
    (hr : resolve v.methods .seq = some (m', b)) :
    b = .error ∨ ∃ c, b = .seq (some c) ∧ v.kind = .byt ∧ c ≤ limit := by
  obtain ⟨⟨r, hrm, rfl, rfl⟩, hfb⟩ := resolve_mem hr
  have hm : r.method = .seq := hfb.resolve_right (fun h => nomatch h)
  have h := visitorOk_methods hv r hrm
  simp only [methodOk, hm, beq_self_eq_true, if_true, Bool.and_eq_true] at h
  obtain ⟨_borrow, hseq⟩ := h
  cases hb : r.body with
  | seq cap =>
    cases cap with
    | none => rw [hb] at hseq; cases hseq
    | some c => rw [hb] at hseq; exact .inr ⟨c, rfl, by simpa [seqBodyOk] using hseq⟩
  | error => exact .inl rfl
  | copy | take | borrow | validateThen _ => rw [hb] at hseq; cases hseq

theorem visitData_sound (hv : visitorOk limit v = true) (m : Method) (hm : m ≠ .seq)
    (p c : List UInt8) (br : Bool) (h : visitData valid v m p = .ok (c, br)) :
    c = p ∧ (v.kind = .str → m.isStr = false → valid p = true) ∧
      (br = true → m.isBorrowed = true ∧ v.borrowsDe = true) := by
  unfold visitData at h
  split at h
  · rename_i m' b hr
    obtain ⟨hc, hval, hbr⟩ := runBody_sound valid b p c br h
    obtain ⟨_, hs, _, hb⟩ := resolve_data_ok hv hr hm (fun e => by rw [e] at h; cases h)
    exact ⟨hc, fun hk hstr => hval (hs hk hstr), fun hbt => (hb (hbr hbt)).symm⟩
  · cases h

theorem visitData_answers (hv : visitorOk limit v = true) (m : Method) (hm : m ≠ .seq)
    (ha : answers v m = true) (p : List UInt8) (hp : v.kind = .str → valid p = true) :
    visitData valid v m p = .ok (p, borrowsOn v m) := by
  unfold answers at ha
  unfold visitData borrowsOn
  cases hr : resolve v.methods m with
  | none => simp [hr] at ha
  | some mb =>
    obtain ⟨m', b⟩ := mb
    obtain ⟨hpl, _, hbyt, _⟩ := resolve_data_ok hv hr hm (fun e => by simp [hr, e] at ha)
    refine runBody_plain valid b p hpl (fun hval => ?_)
    rcases visitorOk_kind hv with hk | hk
    · rw [hbyt hk] at hval; cases hval
    · exact hp hk

theorem token_cases (t : Token) :
    t = .other ∨ (∃ hint xs, t = .seq hint xs) ∨
    ∃ m p, t.method = some m ∧ m ≠ .seq ∧ t.content = some p ∧ t.isBorrowed = m.isBorrowed ∧
      ∀ valid, t.wf valid = (!m.isStr || valid p) ∧
        Spec.Codec.stringDe valid t = (if (m.isStr || valid p) = true then some p else none) ∧
        ∀ v, visit valid v t = visitData valid v m p := by
  cases t with
  | other => exact .inl rfl
  | seq hint xs => exact .inr (.inl ⟨hint, xs, rfl⟩)
  | str p | borrowedStr p | string p | bytes p | borrowedBytes p | byteBuf p | char p =>
    exact .inr (.inr ⟨_, p, rfl, by decide, rfl, rfl, fun _ => ⟨rfl, rfl, fun _ => rfl⟩⟩)

theorem visit_sound_of_ok (hv : visitorOk limit v = true) (t : Token) (ht : t.wf valid = true)
    (c : List UInt8) (br : Bool) (h : visit valid v t = .ok (c, br)) :
    t.content = some c ∧ (v.kind = .str → valid c = true) ∧
      (br = true → t.isBorrowed = true ∧ v.borrowsDe = true) := by
  rcases token_cases t with rfl | ⟨hint, xs, rfl⟩ | ⟨m, p, _, hm, hc, hb, ht'⟩
  · cases h
  · -- only a `seq` body succeeds, and only a `HipByt` visitor has one
    simp only [visit, seqOutcome, collectOutcome] at h
    split at h
    · rename_i m' cap hr
      split at h
      · rename_i bs hbs
        cases h
        obtain ⟨_, _, hk, _⟩ := (resolve_seq_ok hv hr).resolve_left (fun e => nomatch e)
        exact ⟨hbs, fun hs => (by rw [hk] at hs; cases hs), fun hbr => (nomatch hbr)⟩
      · cases h
    · cases h
    · cases h
  · obtain ⟨hwf, _, hvis⟩ := ht' valid
    rw [hvis] at h
    obtain ⟨rfl, hs, hbr⟩ := visitData_sound valid hv m hm p c br h
    rw [hwf] at ht
    refine ⟨hc, fun hk => ?_, fun hbt => hb ▸ hbr hbt⟩
    cases hstr : m.isStr
    · exact hs hk hstr
    · simpa [hstr] using ht

end Visitor

section Accept
variable {limit : Nat} {v : VisitorRow} (valid : List UInt8 → Bool)

theorem collect_map_some (c : List UInt8) : collect (c.map some) = some c := by
  induction c with
  | nil => rfl
  | cons x xs ih => simp [collect, ih]

theorem visit_seq_ok (hv : visitorOk limit v = true) (hk : v.kind = .byt) (hint : Option Nat)
    (xs : List (Option UInt8)) :
    (∃ c, c ≤ limit ∧ seqCapOf v = some (some c)) ∧
    visit valid v (.seq hint xs) = collectOutcome xs := by
  have ha := visitorOk_answers hv .seq (by simp [hk, bytMethods])
  unfold answers at ha
  cases hr : resolve v.methods .seq with
  | none => simp [hr] at ha
  | some mb =>
    obtain ⟨m', b⟩ := mb
    obtain ⟨c, rfl, _, hc⟩ := (resolve_seq_ok hv hr).resolve_left (fun e => by simp [hr, e] at ha)
    exact ⟨⟨c, hc, by simp [seqCapOf, hr]⟩, by simp only [visit, hr, seqOutcome]⟩

theorem mem_strMethods {m : Method} : m ≠ .seq → m ∈ strMethods := by
  cases m <;> decide

/-- Every token std's `String` visitor accepts is accepted, with the same content. -/
theorem accepts_string_of_ok (hv : visitorOk limit v = true) (hk : v.kind = .str) (t : Token)
    (ht : t.wf valid = true) (c : List UInt8) (h : Spec.Codec.stringDe valid t = some c) :
    ∃ br, visit valid v t = .ok (c, br) := by
  rcases token_cases t with rfl | ⟨hint, xs, rfl⟩ | ⟨m, p, _, hm, _, _, ht'⟩
  · cases h
  · cases h
  · obtain ⟨hwf, hsd, hvis⟩ := ht' valid
    rw [hsd] at h
    rw [hwf] at ht
    split at h
    · rename_i hcond
      cases h
      have ha := visitorOk_answers hv m (by rw [hk]; exact mem_strMethods hm)
      -- a string-typed payload is valid by the token's invariant, a byte payload because std accepted it
      have hvp : valid c = true := by cases hstr : m.isStr <;> simp [hstr] at ht hcond <;> assumption
      exact ⟨_, hvis v ▸ visitData_answers valid hv m hm ha c (fun _ => hvp)⟩
    · cases h

/-- Every token std's `Vec<u8>` visitor accepts is accepted, with the same content. -/
theorem accepts_vec_of_ok (hv : visitorOk limit v = true) (hk : v.kind = .byt) (t : Token)
    (c : List UInt8) (h : Spec.Codec.vecU8De t = some c) : visit valid v t = .ok (c, false) := by
  cases t with
  | seq hint xs =>
    simp [Spec.Codec.vecU8De] at h
    rw [(visit_seq_ok valid hv hk hint xs).2]; simp [collectOutcome, h]
  | _ => simp [Spec.Codec.vecU8De] at h

theorem accepts_bytes_of_ok (hv : visitorOk limit v = true) (hk : v.kind = .byt) (m : Method)
    (hm : m = .bytes ∨ m = .borrowedBytes ∨ m = .byteBuf) (p : List UInt8) :
    ∃ br, visitData valid v m p = .ok (p, br) := by
  have ha := visitorOk_answers hv m (by
    rcases hm with rfl | rfl | rfl <;> simp [hk, bytMethods])
  exact ⟨_, visitData_answers valid hv m (by rcases hm with rfl | rfl | rfl <;> simp)
    ha p (fun h => by rw [hk] at h; cases h)⟩

theorem isBorrowed_cases {m : Method} (h : m.isBorrowed = true) :
    m = .borrowedStr ∨ m = .borrowedBytes := by
  cases m <;> simp [Method.isBorrowed] at h ⊢

theorem answers_of_borrowsOn {m : Method} (h : borrowsOn v m = true) : answers v m = true := by
  revert h
  unfold borrowsOn answers
  cases resolve v.methods m with
  | none => exact id
  | some mb =>
    obtain ⟨m', b⟩ := mb
    cases b <;> simp [Body.hasBorrow]

theorem borrow_when_offered_of_ok (hv : visitorOk limit v = true) (hb : v.borrowsDe = true)
    (t : Token) (hbt : t.isBorrowed = true) (ht : t.wf valid = true) (p : List UInt8)
    (hc : t.content = some p) (hp : v.kind = .str → valid p = true) :
    visit valid v t = .ok (p, true) := by
  rcases token_cases t with rfl | ⟨hint, xs, rfl⟩ | ⟨m, q, _, hm, hq, hmb, ht'⟩
  · cases hbt
  · cases hbt
  · rw [hq] at hc
    cases hc
    -- the two borrowed methods are the ones `visitorOk` requires to borrow
    have hbo : borrowsOn v m = true := by
      obtain ⟨hs, hby⟩ := visitorOk_borrows hv hb
      rcases isBorrowed_cases (hmb ▸ hbt) with rfl | rfl
      · exact hs
      · exact hby
    have ha := answers_of_borrowsOn hbo
    rw [(ht' valid).2.2, visitData_answers valid hv m hm ha p hp, hbo]

end Accept

/-- The content-level outcome of a body is a function of its shape. -/
def shapeResult (valid : List UInt8 → Bool) (p : List UInt8) : Shape → Except Err (List UInt8)
  | .none => .error .invalidType
  | .fail => .error .custom
  | .plain false => .ok p
  | .plain true => if valid p then .ok p else .error .invalidValue
  | .seq => .error .invalidType
  | .odd b => (runBody valid b p).map Prod.fst

theorem runBody_shapeResult (valid : List UInt8 → Bool) (b : Body) (p : List UInt8) :
    (runBody valid b p).map Prod.fst = shapeResult valid p b.shape := by
  cases b with
  | copy | take | borrow | seq _ | error => rfl
  | validateThen b =>
    simp only [Body.shape]
    split
    · rename_i hp
      simp only [runBody, shapeResult]
      split
      · rename_i hv
        rw [runBody_plain valid b p hp (fun _ => hv)]; rfl
      · rfl
    · rfl

theorem shape_ne_none (b : Body) : b.shape ≠ .none := by
  cases b <;> simp [Body.shape]
  split <;> simp

theorem methodShape_eq {vo vb : VisitorRow} (h : pairOk vo vb = true) (m : Method) :
    methodShape vo m = methodShape vb m := by
  simp only [pairOk, Bool.and_eq_true] at h
  obtain ⟨_kinds, hall⟩ := h
  simpa using List.all_eq_true.mp hall m (by cases m <;> decide)

theorem visitData_pair (valid : List UInt8 → Bool) {vo vb : VisitorRow}
    (h : pairOk vo vb = true) (m : Method) (p : List UInt8) :
    (visitData valid vo m p).map Prod.fst = (visitData valid vb m p).map Prod.fst := by
  have hs := methodShape_eq h m
  unfold methodShape at hs
  unfold visitData
  cases h1 : resolve vo.methods m with
  | none =>
    cases h2 : resolve vb.methods m with
    | none => rfl
    | some mb => simp only [h1, h2] at hs; exact absurd hs.symm (shape_ne_none _)
  | some mb1 =>
    cases h2 : resolve vb.methods m with
    | none => simp only [h1, h2] at hs; exact absurd hs (shape_ne_none _)
    | some mb2 =>
      simp only [h1, h2] at hs
      show (runBody valid mb1.2 p).map Prod.fst = (runBody valid mb2.2 p).map Prod.fst
      rw [runBody_shapeResult, runBody_shapeResult, hs]

def seqOutcomeShape (xs : List (Option UInt8)) : Shape → Except Err (List UInt8 × Bool)
  | .seq => collectOutcome xs
  | .fail => .error .custom
  | _ => .error .invalidType

theorem seqOutcome_shape (v : VisitorRow) (xs : List (Option UInt8)) :
    seqOutcome (resolve v.methods .seq) xs = seqOutcomeShape xs (methodShape v .seq) := by
  unfold methodShape
  cases resolve v.methods .seq with
  | none => rfl
  | some mb =>
    obtain ⟨m, b⟩ := mb
    cases b with
    | copy | take | borrow | seq _ | error => rfl
    | validateThen b =>
      by_cases hp : b.plain = true <;> simp [seqOutcome, seqOutcomeShape, Body.shape, hp]

theorem owned_eq_borrowed_of_ok (valid : List UInt8 → Bool) {vo vb : VisitorRow}
    (h : pairOk vo vb = true) (t : Token) :
    (visit valid vo t).map Prod.fst = (visit valid vb t).map Prod.fst := by
  rcases token_cases t with rfl | ⟨hint, xs, rfl⟩ | ⟨m, p, _, _, _, _, ht'⟩
  · rfl
  · simp only [visit]
    rw [seqOutcome_shape, seqOutcome_shape, methodShape_eq h .seq]
  · rw [(ht' valid).2.2, (ht' valid).2.2]
    exact visitData_pair valid h m p

theorem seqRequests_bound (cap0 n : Nat) : maxOf (seqRequests cap0 n) ≤ max cap0 (2 * n + 6) := by
  obtain ⟨_, hl, hi⟩ := foldl_push (c0 := cap0) (List.replicate n (0 : UInt8)) (VecSt.withCapacity cap0)
  have := hi (VInv_withCapacity cap0)
  rwa [VInv, hl, List.length_replicate, VecSt.withCapacity, Nat.zero_add] at this

theorem bstr_sound_of_ok (valid : List UInt8 → Bool) (r : BstrRow) (h : bstrRowOk r = true)
    (p c : List UInt8) (br : Bool) (hc : bstrConv valid r p = .ok (c, br)) :
    c = p ∧ (r.kind = .str → valid c = true) ∧
      (br = true → r.src = .bstrRef ∨ r.src = .cowBorrowed) := by
  obtain ⟨h1, h2, h3⟩ := runBody_sound valid r.body p c br hc
  simp only [bstrRowOk, Bool.and_eq_true, Bool.or_eq_true, Bool.not_eq_true', bne_iff_ne, ne_eq,
    beq_iff_eq] at h
  obtain ⟨⟨_plainKind, hstr⟩, hborrow⟩ := h
  refine ⟨h1, fun hk => ?_, fun hb => ?_⟩
  · rw [h1]
    exact h2 (hstr.resolve_left (fun h => h hk)).1
  · rcases hborrow with (h | h) | h
    · rw [h3 hb] at h; cases h
    · exact .inl h
    · exact .inr h
