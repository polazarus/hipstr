/-
Well-formedness is preserved by the std-side specification under the `HipStr` side conditions.
-/
import HipVerif.Model.CoreStr
import HipVerif.Lemmas.CoreAbs
import HipVerif.Lemmas.Utf8

namespace HipVerif.Str
open HipVerif.Utf8 HipVerif.Core HipVerif.Spec.Std HipVerif.Spec.Range HipVerif.RangeTy

theorem allValid_set {p : SPool} (hp : AllValid p) (d : Nat) (x : Option (List UInt8))
    (hx : ∀ v, x = some v → valid v = true) : AllValid (p.set d x) := by
  intro h v hg
  rcases sget_set_cases p d h x v hg with ⟨he, _⟩ | hg'
  · exact hx v he
  · exact hp h v hg'

theorem allValid_set_some {p : SPool} (hp : AllValid p) (d : Nat) {x : List UInt8}
    (hx : valid x = true) : AllValid (p.set d (some x)) :=
  allValid_set hp d _ (by intro v h; cases h; exact hx)

theorem allValid_set_none {p : SPool} (hp : AllValid p) (d : Nat) : AllValid (p.set d none) :=
  allValid_set hp d none (by intro v h; cases h)

theorem asciiLower_eq : Core.asciiLower = Utf8.asciiLower := by
  funext b
  rw [← UInt8.toNat_inj, asciiLower_toNat, Core.asciiLower]
  split
  · rw [UInt8.toNat_add]; simp only [UInt8.toNat_ofNat]; omega
  · rfl

theorem asciiUpper_eq : Core.asciiUpper = Utf8.asciiUpper := by
  funext b
  rw [← UInt8.toNat_inj, asciiUpper_toNat, Core.asciiUpper]
  split
  · rw [UInt8.toNat_sub_of_le _ _ (by rw [UInt8.le_iff_toNat_le]; simp only [UInt8.toNat_ofNat]; omega)]
    simp only [UInt8.toNat_ofNat]
  · rfl

/-- If every value is well-formed UTF-8 and the operation is a
legitimate `HipStr` call (`StrSafe`), every value is well-formed afterwards — whatever the
representation-dependent answer `flag` was. -/
theorem spec_valid_step (icap : Nat) (srcs : List (List UInt8)) (p : SPool) (op : Op) (flag : Bool)
    (hp : AllValid p) (hs : StrSafe srcs p op) : AllValid (Spec.Std.step icap srcs p op flag).1 := by
  cases op with
  | new d | withCapacity d n =>
    simp only [Spec.Std.step]; split
    · exact allValid_set_some hp _ rfl
    · exact hp
  | fromSlice d bs | fromVec d bs cap | borrowed d src off len =>
    simp only [Spec.Std.step]; split
    · exact allValid_set_some hp _ hs
    · exact hp
  | inline d bs | tryInline d bs =>
    simp only [Spec.Std.step]; split
    · split
      · exact allValid_set_some hp _ hs
      · exact hp
    · exact hp
  | clone h d =>
    simp only [Spec.Std.step]
    cases hg : sget p h with
    | none => exact hp
    | some v =>
      simp only; split
      · exact allValid_set_some hp _ (hp h v hg)
      · exact hp
  | slice h d sb eb | trySlice h d sb eb =>
    simp only [Spec.Std.step]
    cases hg : sget p h with
    | none => exact hp
    | some v =>
      simp only; split
      · cases hr : stdGet sb eb v.length with
        | none => exact hp
        | some ab =>
          obtain ⟨a, b⟩ := ab
          have hb := hs v hg a b hr
          have hab : a ≤ b := by
            unfold stdGet at hr; simp only at hr; split at hr <;> simp_all
          exact allValid_set_some hp _ (valid_slice_of_boundaries (hp h v hg) hb.1 hb.2 hab)
      · exact hp
  | trySliceRef h d relNeg rel plen | sliceRef h d relNeg rel plen =>
    simp only [Spec.Std.step]
    cases hg : sget p h with
    | none => exact hp
    | some v =>
      simp only; split
      · split
        · rename_i hc
          simp only [Bool.and_eq_true, decide_eq_true_eq] at hc
          have hb := hs v hg hc.2
          refine allValid_set_some hp _ ?_
          rw [valid_window_eq_isBoundary (hp h v hg) hb.1 hc.2]; exact hb.2
        · exact hp
      · exact hp
  | adopt h d off len =>
    simp only [Spec.Std.step]
    cases hg : sget p h with
    | none => exact hp
    | some v =>
      simp only; split
      · rename_i hc
        simp only [Bool.and_eq_true, decide_eq_true_eq] at hc
        have hb := hs v hg hc.2
        refine allValid_set_some hp _ ?_
        rw [valid_window_eq_isBoundary (hp h v hg) hb.1 hc.2]; exact hb.2
      · exact hp
  | pushSlice h bs =>
    simp only [Spec.Std.step]
    cases hg : sget p h with
    | none => exact hp
    | some v => exact allValid_set_some hp _ (valid_append (hp h v hg) hs)
  | pop h => exact absurd hs (by simp [StrSafe])
  | truncate h n =>
    simp only [Spec.Std.step]
    cases hg : sget p h with
    | none => exact hp
    | some v =>
      refine allValid_set_some hp _ ?_
      by_cases hn : n < v.length
      · exact valid_take_of_boundary (hp h v hg) (hs v hg hn)
      · rw [List.take_of_length_le (Nat.le_of_not_lt hn)]; exact hp h v hg
  | clear h | mutateLeak h script =>
    simp only [Spec.Std.step]
    cases hg : sget p h with
    | none => exact hp
    | some v => exact allValid_set_some hp _ rfl
  | shrinkTo h n | shrinkToFit h | spareCapacity h =>
    simp only [Spec.Std.step]; cases sget p h <;> exact hp
  | asMutWrite h i b =>
    simp only [Spec.Std.step]
    cases hg : sget p h with
    | none => exact hp
    | some v =>
      simp only; split
      · exact allValid_set_some hp _ (hs v hg)
      · exact hp
  | toMutWrite h i b | mutate h script =>
    simp only [Spec.Std.step]
    cases hg : sget p h with
    | none => exact hp
    | some v => exact allValid_set_some hp _ (hs v hg)
  | makeAsciiLower h | makeAsciiUpper h =>
    simp only [Spec.Std.step]
    cases hg : sget p h with
    | none => exact hp
    | some v =>
      refine allValid_set_some hp _ ?_
      simp only [asciiLower_eq, asciiUpper_eq, valid_map_asciiLower_eq, valid_map_asciiUpper_eq]
      exact hp h v hg
  | toAsciiLower h d | toAsciiUpper h d =>
    simp only [Spec.Std.step]
    cases hg : sget p h with
    | none => exact hp
    | some v =>
      simp only; split
      · refine allValid_set_some hp _ ?_
        simp only [asciiLower_eq, asciiUpper_eq, valid_map_asciiLower_eq, valid_map_asciiUpper_eq]
        exact hp h v hg
      · exact hp
  | intoOwned h d =>
    simp only [Spec.Std.step]
    cases hg : sget p h with
    | none => exact hp
    | some v =>
      simp only; split
      · exact allValid_set_some (allValid_set_none hp h) _ (hp h v hg)
      · exact hp
  | intoVec h | intoBorrowed h =>
    simp only [Spec.Std.step]
    cases hg : sget p h with
    | none => exact hp
    | some v =>
      simp only; split
      · exact allValid_set_none hp h
      · exact hp
  | toVec h | drop h =>
    simp only [Spec.Std.step]
    cases hg : sget p h with
    | none => exact hp
    | some v => exact allValid_set_none hp h
  | «repeat» h d n =>
    simp only [Spec.Std.step]
    cases hg : sget p h with
    | none => exact hp
    | some v =>
      simp only; split
      · split
        · exact allValid_set_some hp _ (hp h v hg)
        · split
          · exact allValid_set_some hp _ (valid_replicate_flatten (hp h v hg) n)
          · exact hp
      · exact hp

end HipVerif.Str
