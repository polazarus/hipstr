/-
Facts about single branches of the Core state machine, behind C01, C07 and C09: debug assertions
are unreachable from well-formed states (`debug_irrelevant`); what `clone` and the range
operations do when the reference count cannot be incremented (a private copy) and when it can
(a share); which operations allocate, copy or hand over a buffer.
-/
import HipVerif.Lemmas.CoreStep
import HipVerif.Gen.Consts

namespace HipVerif.Core
open HipVerif.Spec.Std HipVerif.RangeTy HipVerif.Spec.Range
open HipVerif.Core.A

/-! ## debug assertions never fire -/

def withDebug (cfg : Cfg) (b : Bool) : Cfg := { cfg with debug := b }

theorem A.wf_withDebug {cfg : Cfg} {s : State} (b : Bool) (w : Wf cfg s) : Wf (withDebug cfg b) s :=
  { handles := w.handles, counts := w.counts, uniq := w.uniq, ceil := w.ceil, dead := w.dead,
    datacap := w.datacap, bufFresh := w.bufFresh, bufDistinct := w.bufDistinct }

theorem A.rangeInstall_withDebug {cfg : Cfg} {s : State} {hd : Handle} (hok : HandleOk cfg s hd) (dbg : Bool)
    (d : Nat) {a b : Nat} (hb : b ≤ hlen hd) (ret : Ret) :
    A.rangeInstall (withDebug cfg dbg) s hd d a b ret = A.rangeInstall (withDebug cfg false) s hd d a b ret := by
  rw [A.rangeInstall_eq (cfg := withDebug cfg dbg) hok d hb ret, A.rangeInstall_eq (cfg := withDebug cfg false) hok d hb ret]
  rfl

theorem A.truncateOp_withDebug {cfg : Cfg} {s : State} {h : Nat} {hd : Handle}
    (hg : getH s h = some hd) (dbg : Bool) (n : Nat) (ret : Ret) :
    truncateOp (withDebug cfg dbg) s h hd n ret = truncateOp (withDebug cfg false) s h hd n ret := by
  rw [truncateOp_eq hg, truncateOp_eq hg]
  rfl

theorem step_withDebug (cfg : Cfg) (s : State) (op : Op) (w : Wf cfg s) (dbg : Bool) :
    step (withDebug cfg dbg) s op = step (withDebug cfg false) s op := by
  cases op with
  | slice h d sb eb | trySlice h d sb eb =>
    simp only [step_slice, step_trySlice]
    refine onSlot_congr fun hd hg => ?_
    split
    · cases hsim : Gen.Ranges.simplifyRangeMono sb eb (hlen hd) with
      | ok p =>
        exact rangeInstall_withDebug (w.handles h hd hg) dbg d (A.simplify_ok_bounds _ _ _ _ _ hsim).2 _
      | _ => rfl
    · rfl
  | trySliceRef h d rn rel plen | sliceRef h d rn rel plen =>
    simp only [step_trySliceRef, step_sliceRef]
    refine onSlot_congr fun hd hg => ?_
    split
    · cases hsim : Gen.Ranges.tryRangeOf ⟨rel + 1, hlen hd⟩ ⟨if rn then rel + 1 - rel else rel + 1 + rel, plen⟩ with
      | ok p =>
        cases p with
        | none => rfl
        | some q =>
          exact rangeInstall_withDebug (w.handles h hd hg) dbg d (A.range_of_ok_bounds _ _ _ _ hsim).2 _
      | _ => rfl
    · rfl
  | adopt h d off len =>
    rw [step_adopt, step_adopt]
    refine onSlot_congr fun hd hg => ?_
    split
    · rename_i hf
      simp only [Bool.and_eq_true, decide_eq_true_eq] at hf
      exact rangeInstall_withDebug (w.handles h hd hg) dbg d hf.2 _
    · rfl
  | truncate h n => rw [step_truncate, step_truncate]; exact onSlot_congr fun hd hg => truncateOp_withDebug hg dbg n .unit
  | clear h => rw [step_clear, step_clear]; exact onSlot_congr fun hd hg => truncateOp_withDebug hg dbg 0 .unit
  | pop h =>
    rw [step_pop, step_pop]
    refine onSlot_congr fun hd hg => ?_
    split
    · rfl
    · exact truncateOp_withDebug hg dbg _ _
  | _ => rfl

/-- From a well-formed state every operation gives the same state, result and allocator events with
`debug_assertions` on and off: the `debug_assert!(is_normalized())` closing `range_unchecked` /
`slice_ref_unchecked` (src/bytes/raw.rs) and `truncate` never fail. -/
theorem debug_irrelevant (cfg : Cfg) (s : State) (op : Op) (w : Wf cfg s) :
    step { cfg with debug := true } s op = step { cfg with debug := false } s op :=
  step_withDebug cfg s op w true

/-! ## when the count cannot be incremented (C09), and when it can (C07) -/

theorem A.incr_overflow {cfg : Cfg} {s : State} {o : Nat}
    (hov : cfg.backend = .unique ∨ ∃ x, getI s o = some x ∧ x.count = cfg.ceil) : incr cfg s o = (s, false) := by
  unfold incr
  rcases hov with hu | ⟨x, hx, hc⟩
  · rw [hu]
  · rw [hx]
    cases cfg.backend <;> simp [hc]

theorem A.incr_shares {cfg : Cfg} {s : State} {o : Nat} {x : Inner} (hnu : cfg.backend ≠ .unique)
    (hx : getI s o = some x) (hc : x.count < cfg.ceil) :
    incr cfg s o = (setI s o { x with count := x.count + 1 }, true) := by
  unfold incr
  rw [hx]
  cases hb : cfg.backend <;> simp_all

theorem A.getH_install_same {s1 : State} {d : Nat} (hl : d < s1.pool.length) (r : Rep) (t : Bool) (ret : Ret)
    (ev : List Event) : getH (install s1 d r t ret ev).1 d = some ⟨r, t⟩ :=
  getH_setH_same _ _ _ hl

theorem A.getH_install_other {s1 : State} {d k : Nat} (hne : d ≠ k) (r : Rep) (t : Bool) (ret : Ret)
    (ev : List Event) : getH (install s1 d r t ret ev).1 k = getH s1 k :=
  getH_setH_other _ _ _ _ hne

theorem A.getI_install {s1 : State} {d : Nat} (r : Rep) (t : Bool) (ret : Ret) (ev : List Event) (i : Nat) :
    getI (install s1 d r t ret ev).1 i = getI s1 i := rfl

theorem A.slotFree_ne {s : State} {h d : Nat} {hd : Handle} (hg : getH s h = some hd) (hf : slotFree s d = true) :
    d ≠ h := by
  obtain ⟨_, hnone⟩ := slotFree_iff.mp hf
  intro he; subst he; rw [hg] at hnone; cases hnone

theorem A.install_newHeap_facts {s : State} {h d : Nat} {hd : Handle} (hg : getH s h = some hd)
    (hf : slotFree s d = true) (data : List UInt8) (cap : Nat) (t : Bool) (ret : Ret) (o : Nat)
    (ho : o < s.inners.length) {n : Nat} (hn : data.length = n) :
    let s' := (install (newHeap s data cap).1 d (newHeap s data cap).2.1 t ret (newHeap s data cap).2.2).1
    getH s' d = some ⟨.heap s.inners.length s.nextBuf 0 n, t⟩ ∧
    getI s' s.inners.length = some { count := 0, data := data, cap := cap, buf := s.nextBuf, live := true } ∧
    getI s' o = getI s o ∧ getH s' h = some hd := by
  obtain ⟨hl, _⟩ := slotFree_iff.mp hf
  subst hn
  refine ⟨getH_install_same (by exact hl) _ _ _ _, ?_, ?_, ?_⟩
  · exact getI_append_same { s with nextBuf := s.nextBuf + 1 } _
  · exact getI_append_lt { s with nextBuf := s.nextBuf + 1 } _ o ho
  · rw [getH_install_other (slotFree_ne hg hf)]; exact hg

/-- C09: when the count cannot be incremented (`Unique` backend, or count at the ceiling) `clone`
gives a fresh inner holding a private copy of exactly the viewed bytes, data pointer at offset 0 of
its own buffer; the source and its count are untouched. -/
theorem clone_overflow {cfg : Cfg} {s : State} (w : Wf cfg s) {h d : Nat} {hd : Handle} {o pb off len : Nat}
    (hg : getH s h = some hd) (hr : hd.repr = .heap o pb off len) (hf : slotFree s d = true)
    (hov : cfg.backend = .unique ∨ ∃ x, getI s o = some x ∧ x.count = cfg.ceil) :
    getH (step cfg s (.clone h d)).1 d = some ⟨.heap s.inners.length s.nextBuf 0 len, hd.tainted⟩ ∧
    getI (step cfg s (.clone h d)).1 s.inners.length =
      some { count := 0, data := view s hd, cap := len, buf := s.nextBuf, live := true } ∧
    getI (step cfg s (.clone h d)).1 o = getI s o ∧
    getH (step cfg s (.clone h d)).1 h = some hd := by
  have hok := w.handles h hd hg
  have hvl : (view s hd).length = len := by rw [A.view_length hok, hlen_heap hr]
  have ho : o < s.inners.length := by
    obtain ⟨x, hx, _⟩ := (handleOk_heap hr).mp hok
    exact getI_some_lt hx
  have hc : cloneRepr cfg s hd = newHeap s (view s hd) (view s hd).length := by
    unfold cloneRepr; rw [hr]; simp only [incr_overflow hov, Bool.false_eq_true, if_false]
  rw [step_clone, onSlot_some hg]
  simp only [hf, if_true, hc]
  rw [hvl]
  exact install_newHeap_facts hg hf (view s hd) len hd.tainted .unit o ho hvl

/-- C07: on a counted backend below the ceiling `clone` allocates nothing; the new handle is the
same descriptor `(owner, ptr, len)` and the only change to any inner is `count + 1`. -/
theorem clone_shares {cfg : Cfg} {s : State} {h d : Nat} {hd : Handle} {o pb off len : Nat} {x : Inner}
    (hg : getH s h = some hd) (hr : hd.repr = .heap o pb off len) (hf : slotFree s d = true)
    (hnu : cfg.backend ≠ .unique) (hx : getI s o = some x) (hc : x.count < cfg.ceil) :
    (step cfg s (.clone h d)).2.events = [] ∧
    getH (step cfg s (.clone h d)).1 d = some ⟨.heap o pb off len, hd.tainted⟩ ∧
    getI (step cfg s (.clone h d)).1 o = some { x with count := x.count + 1 } ∧
    (∀ j, j ≠ o → getI (step cfg s (.clone h d)).1 j = getI s j) ∧
    getH (step cfg s (.clone h d)).1 h = some hd := by
  obtain ⟨hl, _⟩ := slotFree_iff.mp hf
  have hcl : cloneRepr cfg s hd = (setI s o { x with count := x.count + 1 }, .heap o pb off len, []) := by
    unfold cloneRepr; rw [hr]; simp only [incr_shares hnu hx hc, if_true]
  rw [step_clone, onSlot_some hg]
  simp only [hf, if_true, hcl]
  refine ⟨rfl, getH_install_same (by exact hl) _ _ _ _, ?_, ?_, ?_⟩
  · rw [getI_install]; exact getI_setI_same _ _ _ (getI_some_lt hx)
  · intro j hj; rw [getI_install]; exact getI_setI_other _ _ _ _ (Ne.symm hj)
  · rw [getH_install_other (slotFree_ne hg hf)]; exact hg

theorem A.rangeInstall_overflow {cfg : Cfg} {s : State} (w : Wf cfg s) {h d : Nat} {hd : Handle} {o pb off len : Nat}
    (hg : getH s h = some hd) (hr : hd.repr = .heap o pb off len) (hf : slotFree s d = true)
    (hov : cfg.backend = .unique ∨ ∃ x, getI s o = some x ∧ x.count = cfg.ceil)
    {a b : Nat} (hb : b ≤ len) (hbig : b - a > cfg.icap) (ret : Ret) :
    getH (A.rangeInstall cfg s hd d a b ret).1 d = some ⟨.heap s.inners.length s.nextBuf 0 (b - a), hd.tainted⟩ ∧
    getI (A.rangeInstall cfg s hd d a b ret).1 s.inners.length =
      some { count := 0, data := ((view s hd).drop a).take (b - a), cap := b - a, buf := s.nextBuf, live := true } ∧
    getI (A.rangeInstall cfg s hd d a b ret).1 o = getI s o ∧
    getH (A.rangeInstall cfg s hd d a b ret).1 h = some hd := by
  have hok := w.handles h hd hg
  have hlen : hlen hd = len := hlen_heap hr
  have hvl : (((view s hd).drop a).take (b - a)).length = b - a := by
    simp only [List.length_take, List.length_drop, A.view_length hok, hlen]; omega
  have ho : o < s.inners.length := by
    obtain ⟨x, hx, _⟩ := (handleOk_heap hr).mp hok
    exact getI_some_lt hx
  have hc : rangeRepr cfg s hd a b = newHeap s (((view s hd).drop a).take (b - a)) (b - a) := by
    unfold rangeRepr; rw [hr]
    have : ¬ b - a ≤ cfg.icap := by omega
    simp only [this, if_false, incr_overflow hov, Bool.false_eq_true]
  rw [A.rangeInstall_eq hok d (by rw [hlen]; exact hb), hc]
  exact install_newHeap_facts hg hf (((view s hd).drop a).take (b - a)) (b - a) hd.tainted ret o ho hvl

theorem A.rangeInstall_shares {cfg : Cfg} {s : State} (w : Wf cfg s) {h d : Nat} {hd : Handle} {o pb off len : Nat}
    {x : Inner} (hg : getH s h = some hd) (hr : hd.repr = .heap o pb off len) (hf : slotFree s d = true)
    (hnu : cfg.backend ≠ .unique) (hx : getI s o = some x) (hc : x.count < cfg.ceil)
    {a b : Nat} (hb : b ≤ len) (hbig : b - a > cfg.icap) (ret : Ret) :
    (A.rangeInstall cfg s hd d a b ret).2.events = [] ∧
    getH (A.rangeInstall cfg s hd d a b ret).1 d = some ⟨.heap o pb (off + a) (b - a), hd.tainted⟩ ∧
    getI (A.rangeInstall cfg s hd d a b ret).1 o = some { x with count := x.count + 1 } ∧
    (∀ j, j ≠ o → getI (A.rangeInstall cfg s hd d a b ret).1 j = getI s j) ∧
    getH (A.rangeInstall cfg s hd d a b ret).1 h = some hd := by
  have hok := w.handles h hd hg
  have hlen : hlen hd = len := hlen_heap hr
  obtain ⟨hl, _⟩ := slotFree_iff.mp hf
  have hcl : rangeRepr cfg s hd a b =
      (setI s o { x with count := x.count + 1 }, .heap o pb (off + a) (b - a), []) := by
    unfold rangeRepr; rw [hr]
    have : ¬ b - a ≤ cfg.icap := by omega
    simp only [this, if_false, incr_shares hnu hx hc, if_true]
  rw [A.rangeInstall_eq hok d (by rw [hlen]; exact hb), hcl]
  refine ⟨rfl, getH_install_same (by exact hl) _ _ _ _, ?_, ?_, ?_⟩
  · rw [getI_install]; exact getI_setI_same _ _ _ (getI_some_lt hx)
  · intro j hj; rw [getI_install]; exact getI_setI_other _ _ _ _ (Ne.symm hj)
  · rw [getH_install_other (slotFree_ne hg hf)]; exact hg

theorem step_slice_accepted {cfg : Cfg} {s : State} {h d : Nat} {hd : Handle} {o pb off len : Nat}
    (hg : getH s h = some hd) (hr : hd.repr = .heap o pb off len) (hf : slotFree s d = true)
    {sb eb : Bound} {a b : Nat} (hsim : Gen.Ranges.simplifyRangeMono sb eb len = .ok (a, b)) :
    step cfg s (.slice h d sb eb) = A.rangeInstall cfg s hd d a b .unit := by
  have hlen : hlen hd = len := hlen_heap hr
  rw [step_slice, onSlot_some hg]
  simp only [hf, if_true, hlen, hsim]

theorem step_adopt_accepted {cfg : Cfg} {s : State} {h d : Nat} {hd : Handle} {o pb off len : Nat}
    (hg : getH s h = some hd) (hr : hd.repr = .heap o pb off len) (hf : slotFree s d = true)
    {a n : Nat} (han : a + n ≤ len) :
    step cfg s (.adopt h d a n) = A.rangeInstall cfg s hd d a (a + n) .unit := by
  have hlen : hlen hd = len := hlen_heap hr
  rw [step_adopt, onSlot_some hg]
  simp only [hf, hlen, han, decide_true, Bool.and_self, if_true]

/-- C09: `slice` to a range `a..b` longer than the inline capacity, when the count cannot be
incremented, copies `view[a..b]` into a fresh inner; the new data pointer is offset 0 of that
inner's own buffer and the source is untouched. -/
theorem slice_overflow {cfg : Cfg} {s : State} (w : Wf cfg s) {h d : Nat} {hd : Handle} {o pb off len : Nat}
    (hg : getH s h = some hd) (hr : hd.repr = .heap o pb off len) (hf : slotFree s d = true)
    (hov : cfg.backend = .unique ∨ ∃ x, getI s o = some x ∧ x.count = cfg.ceil)
    {sb eb : Bound} {a b : Nat} (hsim : Gen.Ranges.simplifyRangeMono sb eb len = .ok (a, b))
    (hbig : b - a > cfg.icap) :
    getH (step cfg s (.slice h d sb eb)).1 d = some ⟨.heap s.inners.length s.nextBuf 0 (b - a), hd.tainted⟩ ∧
    getI (step cfg s (.slice h d sb eb)).1 s.inners.length =
      some { count := 0, data := ((view s hd).drop a).take (b - a), cap := b - a, buf := s.nextBuf, live := true } ∧
    getI (step cfg s (.slice h d sb eb)).1 o = getI s o ∧
    getH (step cfg s (.slice h d sb eb)).1 h = some hd := by
  rw [step_slice_accepted hg hr hf hsim]
  exact rangeInstall_overflow w hg hr hf hov (A.simplify_ok_bounds _ _ _ _ _ hsim).2 hbig _

/-- C09: `slice_overflow` for the window `a..a+n` of the methods inherited from `str`. -/
theorem adopt_overflow {cfg : Cfg} {s : State} (w : Wf cfg s) {h d : Nat} {hd : Handle} {o pb off len : Nat}
    (hg : getH s h = some hd) (hr : hd.repr = .heap o pb off len) (hf : slotFree s d = true)
    (hov : cfg.backend = .unique ∨ ∃ x, getI s o = some x ∧ x.count = cfg.ceil)
    {a n : Nat} (han : a + n ≤ len) (hbig : n > cfg.icap) :
    getH (step cfg s (.adopt h d a n)).1 d = some ⟨.heap s.inners.length s.nextBuf 0 n, hd.tainted⟩ ∧
    getI (step cfg s (.adopt h d a n)).1 s.inners.length =
      some { count := 0, data := ((view s hd).drop a).take n, cap := n, buf := s.nextBuf, live := true } ∧
    getI (step cfg s (.adopt h d a n)).1 o = getI s o ∧
    getH (step cfg s (.adopt h d a n)).1 h = some hd := by
  rw [step_adopt_accepted hg hr hf han]
  have := rangeInstall_overflow w hg hr hf hov (a := a) (b := a + n) han (by omega) .unit
  simpa only [Nat.add_sub_cancel_left] using this

/-- C07: `slice` to a range longer than the inline capacity, on a counted backend below the
ceiling, allocates nothing: same owner, data pointer advanced by `a`, and only the count moves. -/
theorem slice_shares {cfg : Cfg} {s : State} (w : Wf cfg s) {h d : Nat} {hd : Handle} {o pb off len : Nat}
    {x : Inner} (hg : getH s h = some hd) (hr : hd.repr = .heap o pb off len) (hf : slotFree s d = true)
    (hnu : cfg.backend ≠ .unique) (hx : getI s o = some x) (hc : x.count < cfg.ceil)
    {sb eb : Bound} {a b : Nat} (hsim : Gen.Ranges.simplifyRangeMono sb eb len = .ok (a, b))
    (hbig : b - a > cfg.icap) :
    (step cfg s (.slice h d sb eb)).2.events = [] ∧
    getH (step cfg s (.slice h d sb eb)).1 d = some ⟨.heap o pb (off + a) (b - a), hd.tainted⟩ ∧
    getI (step cfg s (.slice h d sb eb)).1 o = some { x with count := x.count + 1 } ∧
    (∀ j, j ≠ o → getI (step cfg s (.slice h d sb eb)).1 j = getI s j) ∧
    getH (step cfg s (.slice h d sb eb)).1 h = some hd := by
  rw [step_slice_accepted hg hr hf hsim]
  exact rangeInstall_shares w hg hr hf hnu hx hc (A.simplify_ok_bounds _ _ _ _ _ hsim).2 hbig _

/-- C07: `slice_shares` for the window `a..a+n` of the methods inherited from `str`. -/
theorem adopt_shares {cfg : Cfg} {s : State} (w : Wf cfg s) {h d : Nat} {hd : Handle} {o pb off len : Nat}
    {x : Inner} (hg : getH s h = some hd) (hr : hd.repr = .heap o pb off len) (hf : slotFree s d = true)
    (hnu : cfg.backend ≠ .unique) (hx : getI s o = some x) (hc : x.count < cfg.ceil)
    {a n : Nat} (han : a + n ≤ len) (hbig : n > cfg.icap) :
    (step cfg s (.adopt h d a n)).2.events = [] ∧
    getH (step cfg s (.adopt h d a n)).1 d = some ⟨.heap o pb (off + a) n, hd.tainted⟩ ∧
    getI (step cfg s (.adopt h d a n)).1 o = some { x with count := x.count + 1 } ∧
    (∀ j, j ≠ o → getI (step cfg s (.adopt h d a n)).1 j = getI s j) ∧
    getH (step cfg s (.adopt h d a n)).1 h = some hd := by
  rw [step_adopt_accepted hg hr hf han]
  have := rangeInstall_shares w hg hr hf hnu hx hc (a := a) (b := a + n) han (by omega) .unit
  simpa only [Nat.add_sub_cancel_left] using this

/-- C09: for every ceiling up to `usize::MAX − 1` the stored count of a live inner never reaches
`usize::MAX`, so `count + 1` (the number of shares) never wraps. -/
theorem count_never_wraps {cfg : Cfg} {s : State} (w : Wf cfg s) (hceil : cfg.ceil + 1 < U) :
    ∀ i x, getI s i = some x → x.live = true → x.count + 1 < U := by
  intro i x hx hl
  have := w.ceil i x hx hl
  omega

/-- the configuration of the real crate: the increment bounds are the GENERATED constants
(`Arc::incr`: `old < usize::MAX − 1`; `Rc::incr`: `new < usize::MAX`), the inline capacity is
`INLINE_CAPACITY` -/
def realCfg (b : Backend) (debug : Bool) : Cfg :=
  { backend := b,
    ceil := (match b with
      | .arc => Gen.Consts.arcIncrBound
      | .rc => Gen.Consts.rcIncrBound - 1
      | .unique => 0),
    debug := debug,
    icap := Gen.Consts.inlineCapacity }

/-- C09: the real increment bounds leave room for `count + 1` in a `usize`, on the three backends. -/
theorem realCfg_ceil_lt (b : Backend) (debug : Bool) : (realCfg b debug).ceil + 1 < U := by
  cases b <;> (show _ + 1 < U) <;> simp only [realCfg] <;> decide

/-- C09 for the real crate: with the bounds the code uses, no reference count ever wraps. -/
theorem count_never_wraps_real {b : Backend} {debug : Bool} {s : State} (w : Wf (realCfg b debug) s) :
    ∀ i x, getI s i = some x → x.live = true → x.count + 1 < U :=
  count_never_wraps w (realCfg_ceil_lt b debug)

/-- C09: on the `Unique` backend every live inner has exactly one handle — nothing is ever shared. -/
theorem unique_never_shares {cfg : Cfg} {s : State} (hu : cfg.backend = .unique) (w : Wf cfg s) :
    ∀ i x, getI s i = some x → x.live = true → refsTo s i = 1 := by
  intro i x hx hl
  rw [w.counts i x hx hl, w.uniq hu i x hx hl]

/-! ## allocation and zero-copy facts (C07) -/

def isAllocEv : Event → Bool
  | .allocInner _ => true
  | .allocBuf _ _ => true
  | .growBuf _ _ _ => true
  | _ => false

def isBufAllocEv : Event → Bool
  | .allocBuf _ _ => true
  | .growBuf _ _ _ => true
  | _ => false

/-- C07: `capacity()` is never smaller than `len()`, for the three representations. -/
theorem capacity_ge_len {cfg : Cfg} {s : State} (w : Wf cfg s) {h : Nat} {hd : Handle}
    (hg : getH s h = some hd) : hlen hd ≤ capacity cfg s hd := by
  have hok := w.handles h hd hg
  unfold HandleOk at hok
  unfold hlen capacity
  cases hr : hd.repr with
  | inline bs => rw [hr] at hok; exact hok
  | borrowed a b c => exact Nat.le_refl _
  | heap o pb off len =>
    rw [hr] at hok
    obtain ⟨x, hx, hlive, _, hrng⟩ := hok
    have := w.datacap o x hx hlive
    simp only [hx, Option.map_some, Option.getD_some]
    omega

/-- C07: `HipByt::new()` never allocates; the new value is the empty inline representation. -/
theorem new_no_alloc (cfg : Cfg) (s : State) (d : Nat) :
    (step cfg s (.new d)).2.events = [] ∧
    (slotFree s d = true → getH (step cfg s (.new d)).1 d = some ⟨.inline [], false⟩) := by
  rw [step_new]
  constructor
  · split <;> rfl
  · intro hf
    simp only [hf, if_true]
    exact getH_install_same (slotFree_iff.mp hf).1 _ _ _ _

/-- C07: `inline()` / `try_inline()` never allocate; when the bytes fit the value is exactly the
inline representation of them. -/
theorem inline_no_alloc (cfg : Cfg) (s : State) (d : Nat) (bs : List UInt8) :
    (step cfg s (.inline d bs)).2.events = [] ∧ (step cfg s (.tryInline d bs)).2.events = [] ∧
    (slotFree s d = true → bs.length ≤ cfg.icap →
      getH (step cfg s (.inline d bs)).1 d = some ⟨.inline bs, false⟩ ∧
      getH (step cfg s (.tryInline d bs)).1 d = some ⟨.inline bs, false⟩) := by
  rw [step_inline, step_tryInline]
  refine ⟨?_, ?_, ?_⟩
  · split
    · split <;> rfl
    · rfl
  · split
    · split <;> rfl
    · rfl
  · intro hf hi
    simp only [hf, hi, if_true]
    exact ⟨getH_install_same (slotFree_iff.mp hf).1 _ _ _ _, getH_install_same (slotFree_iff.mp hf).1 _ _ _ _⟩

/-- C07: `borrowed()` / `from_static()` is zero-copy: no allocator event, no write, and the value
is exactly the descriptor `(src, off, len)` of the caller's memory. -/
theorem borrowed_zero_copy (cfg : Cfg) (s : State) (d src off len : Nat) :
    (step cfg s (.borrowed d src off len)).2.events = [] ∧
    (slotFree s d = true → off + len ≤ (s.srcs[src]?.getD []).length → src < s.srcs.length →
      getH (step cfg s (.borrowed d src off len)).1 d = some ⟨.borrowed src off len, false⟩) := by
  rw [step_borrowed]
  constructor
  · split <;> rfl
  · intro hf h1 h2
    simp only [hf, h1, h2, decide_true, Bool.and_self, if_true]
    exact getH_install_same (slotFree_iff.mp hf).1 _ _ _ _

/-- C07: `from_slice` of at most `INLINE_CAPACITY` bytes never allocates and stores them inline. -/
theorem fromSlice_small_no_alloc (cfg : Cfg) (s : State) (d : Nat) (bs : List UInt8) (hi : bs.length ≤ cfg.icap) :
    (step cfg s (.fromSlice d bs)).2.events = [] ∧
    (slotFree s d = true → getH (step cfg s (.fromSlice d bs)).1 d = some ⟨.inline bs, false⟩) := by
  have hfs : fromSliceRepr cfg s bs = (s, .inline bs, []) := by
    unfold fromSliceRepr
    split
    · rename_i h0
      rw [List.eq_nil_of_length_eq_zero h0]
    · rfl
  rw [step_fromSlice, hfs]
  constructor
  · split <;> rfl
  · intro hf
    simp only [hf, if_true]
    exact getH_install_same (slotFree_iff.mp hf).1 _ _ _ _

/-- C07: `From<Vec<u8>>` of a vector longer than the inline capacity reuses the vector's buffer:
the new handle points at offset 0 of it, and the only allocation is the box. -/
theorem fromVec_reuses_buffer (cfg : Cfg) (s : State) (d : Nat) (bs : List UInt8) (cap : Nat)
    (hbig : bs.length > cfg.icap) (hf : slotFree s d = true) (hcap : bs.length ≤ cap) :
    getH (step cfg s (.fromVec d bs cap)).1 d = some ⟨.heap s.inners.length s.nextBuf 0 bs.length, false⟩ ∧
    getI (step cfg s (.fromVec d bs cap)).1 s.inners.length =
      some { count := 0, data := bs, cap := cap, buf := s.nextBuf, live := true } ∧
    (step cfg s (.fromVec d bs cap)).2.events =
      (if cap > 0 then [Event.importBuf s.nextBuf cap] else []) ++ [Event.allocInner s.inners.length] ∧
    (∀ e ∈ (step cfg s (.fromVec d bs cap)).2.events, isBufAllocEv e = false) := by
  have hfv : fromVecRepr cfg { s with nextBuf := s.nextBuf + 1 } bs cap s.nextBuf =
      ((boxVec { s with nextBuf := s.nextBuf + 1 } bs cap s.nextBuf).1, .heap s.inners.length s.nextBuf 0 bs.length,
        [Event.allocInner s.inners.length]) := by
    unfold fromVecRepr
    have : ¬ bs.length ≤ cfg.icap := by omega
    simp only [this, if_false]
    rfl
  rw [step_fromVec, hfv]
  simp only [hf, hcap, decide_true, Bool.and_self, if_true]
  refine ⟨getH_setH_same _ _ _ (slotFree_iff.mp hf).1, ?_, rfl, ?_⟩
  · exact getI_append_same { s with nextBuf := s.nextBuf + 1 } _
  · intro e he
    simp only [install, ok] at he
    split at he
    · simp only [List.cons_append, List.nil_append, List.mem_cons, List.not_mem_nil, or_false] at he
      rcases he with rfl | rfl <;> rfl
    · simp only [List.nil_append, List.mem_cons, List.not_mem_nil, or_false] at he
      subst he; rfl

/-- C07: when `into_vec()` succeeds the value was sole owner of an allocation, at offset 0 of it,
and the caller receives that very buffer holding exactly the viewed bytes; only the box is freed.
`exportBuf` is conditional on `cap > 0` because a capacity-0 `Vec` has no buffer to hand over. -/
theorem intoVec_returns_buffer {cfg : Cfg} {s : State} (w : Wf cfg s) {h : Nat} {v : List UInt8}
    (hret : (step cfg s (.intoVec h)).2.ret = .bytes v) :
    ∃ hd o pb len x, getH s h = some hd ∧ hd.repr = .heap o pb 0 len ∧ getI s o = some x ∧ pb = x.buf ∧
      ownerUnique cfg s o = true ∧ refsTo s o = 1 ∧
      (step cfg s (.intoVec h)).2.events =
        .freeInner o :: (if x.cap > 0 then [.exportBuf pb] else []) ∧
      (0 < len → (step cfg s (.intoVec h)).2.events = [.freeInner o, .exportBuf pb]) ∧
      v = view s hd := by
  rw [step_intoVec] at hret ⊢
  unfold onSlot stealVec at hret ⊢
  cases hg : getH s h with
  | none => rw [hg] at hret; cases hret
  | some hd =>
    rw [hg] at hret
    simp only at hret ⊢
    cases hr : hd.repr with
    | inline b0 => rw [hr] at hret; cases hret
    | borrowed a b c => rw [hr] at hret; cases hret
    | heap o pb off len =>
      rw [hr] at hret
      simp only at hret ⊢
      cases hx : getI s o with
      | none => rw [hx] at hret; cases hret
      | some x =>
        rw [hx] at hret
        simp only at hret ⊢
        by_cases hcond : (off == 0 && ownerUnique cfg s o) = true
        · simp only [hcond, if_true, A.ok_ret, Ret.bytes.injEq] at hret ⊢
          simp only [Bool.and_eq_true, beq_iff_eq] at hcond
          obtain ⟨hoff, hu⟩ := hcond
          subst hoff
          obtain ⟨x1, hx1, hlive, hpb, hrng⟩ := (handleOk_heap hr).mp (w.handles h hd hg)
          rw [hx] at hx1; cases hx1
          refine ⟨hd, o, pb, len, x, rfl, hr, hx, hpb, hu, ownerUnique_sole w hg hr hu, ?_, ?_, ?_⟩
          · rw [hpb]; rfl
          · intro hlen
            have hcap : x.cap > 0 := by have := w.datacap o x hx hlive; omega
            rw [hpb]
            show Event.freeInner o :: (if x.cap > 0 then [Event.exportBuf x.buf] else []) = _
            rw [if_pos hcap]
          · rw [← hret, view_heap_eq hr hx]; simp
        · simp only [hcond, Bool.false_eq_true, if_false] at hret
          cases hret

/-- C07: appending to a sole-owned allocated value within its capacity happens in place: nothing is
allocated or reallocated (a `with_capacity(n)` value accepts `n` bytes without moving). -/
theorem push_within_capacity_stable {cfg : Cfg} {s : State} {h : Nat} {hd : Handle} {o pb off len : Nat} {x : Inner}
    (hg : getH s h = some hd) (hr : hd.repr = .heap o pb off len) (hx : getI s o = some x)
    (hu : ownerUnique cfg s o = true) (bs : List UInt8) (hcap : off + len + bs.length ≤ x.cap) :
    getH (step cfg s (.pushSlice h bs)).1 h = some { hd with repr := .heap o x.buf off (len + bs.length) } ∧
    (∀ e ∈ (step cfg s (.pushSlice h bs)).2.events, isAllocEv e = false) ∧
    (∀ y, getI (step cfg s (.pushSlice h bs)).1 o = some y → y.buf = x.buf ∧ y.cap = x.cap) := by
  have hl := getH_some_lt hg
  have hfit : (x.data.take (off + len) ++ bs).length ≤ x.cap := by
    simp only [List.length_append, List.length_take]; omega
  simp only [step, hg, hr, hx, hu, if_true, hfit]
  refine ⟨getH_setH_same _ _ _ (by exact hl), ?_, ?_⟩
  · intro e he
    simp only [ok] at he
    split at he
    · simp only [List.mem_cons, List.not_mem_nil, or_false] at he
      subst he; rfl
    · cases he
  · intro y hy
    simp only [ok, getI_setH, getI_setI_same _ _ _ (getI_some_lt hx), Option.some.injEq] at hy
    subst hy; exact ⟨rfl, rfl⟩

/-- C07: a value that does not descend from `with_capacity` and is not borrowed is inline whenever
it fits (`is_normalized`). -/
theorem untainted_small_owned_inline {cfg : Cfg} {s : State} (hn : NormOk cfg s) {h : Nat} {hd : Handle}
    (hg : getH s h = some hd) (ht : hd.tainted = false) (hb : isBorrowed hd = false) (hi : hlen hd ≤ cfg.icap) :
    isInline hd = true := by
  have := hn h hd hg ht
  unfold isNormalized at this
  have hlt : ¬ hlen hd > cfg.icap := by omega
  simpa [hb, hlt] using this

end HipVerif.Core
