/-
  Byte-level facts about the UTF-8 byte classes of `HipVerif/Model/Utf8.lean`, stated over
  `UInt8.toNat` so that `omega` can use them.  Only the three bit operations (`isCont`, and the
  case maps `asciiLower`/`asciiUpper`) need a finite check; `leadLen`, `secondLo`, `secondHi` are
  chains of comparisons and are read off their definitions.
-/
import HipVerif.Model.Utf8
namespace HipVerif.Utf8

theorem toNat_ofNat_of_lt {n : Nat} (h : n < 256) : (UInt8.ofNat n).toNat = n := by
  rw [UInt8.toNat_ofNat']; exact Nat.mod_eq_of_lt h

theorem isCont_iff_toNat (b : UInt8) : isCont b = true ↔ 0x80 ≤ b.toNat ∧ b.toNat ≤ 0xBF := by
  have bits : ∀ n, n < 256 → (n &&& 0xC0 = 0x80 ↔ 0x80 ≤ n ∧ n ≤ 0xBF) := by decide +kernel
  simp only [isCont, beq_iff_eq, ← UInt8.toNat_inj, UInt8.toNat_and, UInt8.toNat_ofNat]
  exact bits _ b.toNat_lt

theorem isCont_iff_le (b : UInt8) : isCont b = true ↔ 0x80 ≤ b ∧ b ≤ 0xBF := by
  rw [isCont_iff_toNat, UInt8.le_iff_toNat_le, UInt8.le_iff_toNat_le]; rfl

theorem isCont_false_iff_toNat (b : UInt8) :
    isCont b = false ↔ b.toNat < 0x80 ∨ 0xBF < b.toNat := by
  rw [← Bool.not_eq_true, isCont_iff_toNat]; omega

theorem isCont_of_lt_0x80 {b : UInt8} (h : b.toNat < 0x80) : isCont b = false :=
  (isCont_false_iff_toNat b).mpr (Or.inl h)

theorem leadLen_iff (b : UInt8) :
    (leadLen b = 1 ↔ b.toNat < 0x80) ∧ (leadLen b = 2 ↔ 0xC2 ≤ b.toNat ∧ b.toNat ≤ 0xDF) ∧
    (leadLen b = 3 ↔ 0xE0 ≤ b.toNat ∧ b.toNat ≤ 0xEF) ∧
    (leadLen b = 4 ↔ 0xF0 ≤ b.toNat ∧ b.toNat ≤ 0xF4) ∧
    (leadLen b = 0 ↔ (0x80 ≤ b.toNat ∧ b.toNat < 0xC2) ∨ 0xF4 < b.toNat) := by
  simp only [leadLen, UInt8.le_iff_toNat_le, UInt8.lt_iff_toNat_lt, UInt8.toNat_ofNat]
  split
  · omega
  split
  · omega
  split
  · omega
  split
  · omega
  split <;> omega

theorem leadLen_eq_one_iff (b : UInt8) : leadLen b = 1 ↔ b.toNat < 0x80 := (leadLen_iff b).1

theorem leadLen_eq_two_iff (b : UInt8) : leadLen b = 2 ↔ 0xC2 ≤ b.toNat ∧ b.toNat ≤ 0xDF :=
  (leadLen_iff b).2.1

theorem leadLen_eq_three_iff (b : UInt8) : leadLen b = 3 ↔ 0xE0 ≤ b.toNat ∧ b.toNat ≤ 0xEF :=
  (leadLen_iff b).2.2.1

theorem leadLen_eq_four_iff (b : UInt8) : leadLen b = 4 ↔ 0xF0 ≤ b.toNat ∧ b.toNat ≤ 0xF4 :=
  (leadLen_iff b).2.2.2.1

theorem leadLen_eq_zero_iff (b : UInt8) :
    leadLen b = 0 ↔ (0x80 ≤ b.toNat ∧ b.toNat < 0xC2) ∨ 0xF4 < b.toNat := (leadLen_iff b).2.2.2.2

theorem leadLen_le_four (b : UInt8) : leadLen b ≤ 4 := by
  have := leadLen_iff b; omega

theorem isCont_false_of_leadLen_ne_zero (b : UInt8) (h : leadLen b ≠ 0) : isCont b = false := by
  rw [isCont_false_iff_toNat]; have := leadLen_iff b; omega

theorem leadLen_ne_one_of_ge {b : UInt8} (h : 0x80 ≤ b.toNat) : leadLen b ≠ 1 := by
  rw [Ne, leadLen_eq_one_iff]; omega

theorem secondLo_toNat (b0 : UInt8) :
    (secondLo b0).toNat = if b0.toNat = 0xE0 then 0xA0 else if b0.toNat = 0xF0 then 0x90 else 0x80 := by
  simp only [secondLo, ← UInt8.toNat_inj, UInt8.reduceToNat]
  split
  · rfl
  · split <;> rfl

theorem secondHi_toNat (b0 : UInt8) :
    (secondHi b0).toNat = if b0.toNat = 0xED then 0x9F else if b0.toNat = 0xF4 then 0x8F else 0xBF := by
  simp only [secondHi, ← UInt8.toNat_inj, UInt8.reduceToNat]
  split
  · rfl
  · split <;> rfl

theorem secondLo_le_iff (b0 : UInt8) (n : Nat) : (secondLo b0).toNat ≤ n ↔
    0x80 ≤ n ∧ (b0.toNat = 0xE0 → 0xA0 ≤ n) ∧ (b0.toNat = 0xF0 → 0x90 ≤ n) := by
  rw [secondLo_toNat]; split
  · omega
  · split <;> omega

theorem le_secondHi_iff (b0 : UInt8) (n : Nat) : n ≤ (secondHi b0).toNat ↔
    n ≤ 0xBF ∧ (b0.toNat = 0xED → n ≤ 0x9F) ∧ (b0.toNat = 0xF4 → n ≤ 0x8F) := by
  rw [secondHi_toNat]; split
  · omega
  · split <;> omega

theorem secondHi_toNat_le (b0 : UInt8) : (secondHi b0).toNat ≤ 0xBF :=
  ((le_secondHi_iff b0 _).mp (Nat.le_refl _)).1

theorem secondOk_iff_toNat (b0 b1 : UInt8) :
    secondOk b0 b1 = true ↔
      (0x80 ≤ b1.toNat ∧ (b0.toNat = 0xE0 → 0xA0 ≤ b1.toNat) ∧ (b0.toNat = 0xF0 → 0x90 ≤ b1.toNat)) ∧
      b1.toNat ≤ 0xBF ∧ (b0.toNat = 0xED → b1.toNat ≤ 0x9F) ∧ (b0.toNat = 0xF4 → b1.toNat ≤ 0x8F) := by
  simp only [secondOk, Bool.and_eq_true, decide_eq_true_eq, UInt8.le_iff_toNat_le,
    secondLo_le_iff, le_secondHi_iff]

theorem isCont_of_secondOk {b0 b1 : UInt8} (h : secondOk b0 b1 = true) : isCont b1 = true := by
  rw [secondOk_iff_toNat] at h
  exact (isCont_iff_toNat b1).mpr ⟨h.1.1, h.2.1⟩

theorem secondOk_of_isCont {b0 b1 : UInt8} (h0 : b0.toNat ≠ 0xE0) (h1 : b0.toNat ≠ 0xED)
    (h2 : b0.toNat ≠ 0xF0) (h3 : b0.toNat ≠ 0xF4) (h : isCont b1 = true) :
    secondOk b0 b1 = true := by
  rw [isCont_iff_toNat] at h
  rw [secondOk_iff_toNat]; omega

theorem asciiLower_toNat (b : UInt8) :
    (asciiLower b).toNat = if 0x41 ≤ b.toNat ∧ b.toNat ≤ 0x5A then b.toNat + 0x20 else b.toNat := by
  -- bit 5 is clear in `A..Z`
  have bit : ∀ n, n < 0x5B → 0x41 ≤ n → n ||| 0x20 = n + 0x20 := by decide
  simp only [asciiLower, UInt8.le_iff_toNat_le, UInt8.toNat_ofNat]
  split
  · rename_i h; rw [UInt8.toNat_or]; exact bit _ (by omega) h.1
  · rfl

theorem asciiUpper_toNat (b : UInt8) :
    (asciiUpper b).toNat = if 0x61 ≤ b.toNat ∧ b.toNat ≤ 0x7A then b.toNat - 0x20 else b.toNat := by
  -- bit 5 is set in `a..z`
  have bit : ∀ n, n < 0x7B → 0x61 ≤ n → n ^^^ 0x20 = n - 0x20 := by decide
  simp only [asciiUpper, UInt8.le_iff_toNat_le, UInt8.toNat_ofNat]
  split
  · rename_i h; rw [UInt8.toNat_xor]; exact bit _ (by omega) h.1
  · rfl

theorem asciiLower_idem (b : UInt8) : asciiLower (asciiLower b) = asciiLower b := by
  simp only [← UInt8.toNat_inj, asciiLower_toNat]
  split
  · split <;> omega
  · rfl

theorem asciiUpper_idem (b : UInt8) : asciiUpper (asciiUpper b) = asciiUpper b := by
  simp only [← UInt8.toNat_inj, asciiUpper_toNat]
  split
  · split <;> omega
  · rfl

/-- A byte map that fixes every non-ASCII byte and keeps ASCII bytes ASCII.  Mapping such a
function over a string changes neither validity nor char boundaries. -/
def AsciiOnly (f : UInt8 → UInt8) : Prop :=
  ∀ b, (0x80 ≤ b.toNat → f b = b) ∧ (b.toNat < 0x80 → (f b).toNat < 0x80)

theorem asciiOnly_asciiLower : AsciiOnly asciiLower := by
  intro b
  simp only [← UInt8.toNat_inj, asciiLower_toNat]
  split <;> omega

theorem asciiOnly_asciiUpper : AsciiOnly asciiUpper := by
  intro b
  simp only [← UInt8.toNat_inj, asciiUpper_toNat]
  split <;> omega

theorem AsciiOnly.cases {f : UInt8 → UInt8} (hf : AsciiOnly f) (b : UInt8) :
    f b = b ∨ ((f b).toNat < 0x80 ∧ b.toNat < 0x80) := by
  by_cases c : 0x80 ≤ b.toNat
  · exact Or.inl ((hf b).1 c)
  · exact Or.inr ⟨(hf b).2 (by omega), by omega⟩

theorem AsciiOnly.isCont_eq {f : UInt8 → UInt8} (hf : AsciiOnly f) (b : UInt8) :
    isCont (f b) = isCont b := by
  rcases hf.cases b with e | ⟨h1, h2⟩
  · rw [e]
  · rw [isCont_of_lt_0x80 h1, isCont_of_lt_0x80 h2]

theorem AsciiOnly.leadLen_eq {f : UInt8 → UInt8} (hf : AsciiOnly f) (b : UInt8) :
    leadLen (f b) = leadLen b := by
  rcases hf.cases b with e | ⟨h1, h2⟩
  · rw [e]
  · rw [(leadLen_eq_one_iff _).mpr h1, (leadLen_eq_one_iff _).mpr h2]

theorem AsciiOnly.secondOk_eq {f : UInt8 → UInt8} (hf : AsciiOnly f) (b0 b1 : UInt8) :
    secondOk (f b0) (f b1) = secondOk b0 b1 := by
  rcases hf.cases b1 with e1 | ⟨h1, h1'⟩
  · rcases hf.cases b0 with e0 | ⟨h0, h0'⟩
    · rw [e0, e1]
    · -- an ASCII lead is none of the four special leads
      rw [e1, Bool.eq_iff_iff, secondOk_iff_toNat, secondOk_iff_toNat]; omega
  · -- neither `f b1` nor `b1` is a continuation byte
    rw [Bool.eq_iff_iff, secondOk_iff_toNat, secondOk_iff_toNat]; omega

theorem isCont_asciiLower (b : UInt8) : isCont (asciiLower b) = isCont b :=
  asciiOnly_asciiLower.isCont_eq b

theorem isCont_asciiUpper (b : UInt8) : isCont (asciiUpper b) = isCont b :=
  asciiOnly_asciiUpper.isCont_eq b

theorem leadLen_asciiLower (b : UInt8) : leadLen (asciiLower b) = leadLen b :=
  asciiOnly_asciiLower.leadLen_eq b

theorem leadLen_asciiUpper (b : UInt8) : leadLen (asciiUpper b) = leadLen b :=
  asciiOnly_asciiUpper.leadLen_eq b

end HipVerif.Utf8
