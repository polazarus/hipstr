/-
  UTF-8 theory for property C06 ("HipStr is always well-formed UTF-8"): about the byte-level model
  of `HipVerif/Model/Utf8.lean`, for EVERY byte list (no length bound).

  Bool-valued model functions (`valid`, `isBoundary`, `isCont`, `isScalar`, `isScalarEnc`,
  `secondOk`) appear in statements as `f x = true` / `f x = false` (which is what a coercion
  `(h : valid s)` elaborates to, so such hypotheses can be passed directly).

  Table 3-7 is the inductive `IsSeq` (one constructor per row); `firstCharLen` is inverted once
  (`firstCharLen_cases`: it is `0`, or there is a row at the head).  The functions that recurse on
  `firstCharLen` with fuel unfold through `peel_step`.  From there on everything is generic
  reasoning about a prefix code whose non-first bytes are continuation bytes, by induction over
  the scalars of a string (`scalar_induction`, `valid_induction`).
-/
import HipVerif.Lemmas.Utf8Bytes

namespace HipVerif.Utf8

/-! ## One scalar: Table 3-7 row by row -/

inductive IsSeq : List UInt8 → Prop
  | one {b0} : leadLen b0 = 1 → IsSeq [b0]
  | two {b0 b1} : leadLen b0 = 2 → secondOk b0 b1 = true → IsSeq [b0, b1]
  | three {b0 b1 b2} : leadLen b0 = 3 → secondOk b0 b1 = true → isCont b2 = true →
      IsSeq [b0, b1, b2]
  | four {b0 b1 b2 b3} : leadLen b0 = 4 → secondOk b0 b1 = true → isCont b2 = true →
      isCont b3 = true → IsSeq [b0, b1, b2, b3]

@[simp] theorem firstCharLen_nil : firstCharLen [] = 0 := rfl

theorem IsSeq.firstCharLen_append {c : List UInt8} (h : IsSeq c) (t : List UInt8) :
    firstCharLen (c ++ t) = c.length := by
  cases h with
  | one h1 => simp only [List.cons_append, firstCharLen, h1, List.length_singleton]
  | two h2 hs =>
    simp only [List.cons_append, firstCharLen, h2, hs, if_true, List.length_cons, List.length_nil]
  | three h3 hs c2 =>
    simp only [List.cons_append, firstCharLen, h3, hs, c2, Bool.and_self, if_true,
      List.length_cons, List.length_nil]
  | four h4 hs c2 c3 =>
    simp only [List.cons_append, firstCharLen, h4, hs, c2, c3, Bool.and_self, if_true,
      List.length_cons, List.length_nil]

theorem firstCharLen_cases (s : List UInt8) :
    firstCharLen s = 0 ∨ ∃ c t, IsSeq c ∧ s = c ++ t := by
  unfold firstCharLen
  split
  · exact Or.inl rfl
  · split
    · exact Or.inr ⟨[_], _, .one ‹_›, rfl⟩
    · split
      · exact Or.inr ⟨[_, _], _, .two ‹_› ‹_›, rfl⟩
      · exact Or.inl rfl
    · split
      · rename_i hc; rw [Bool.and_eq_true] at hc
        exact Or.inr ⟨[_, _, _], _, .three ‹_› hc.1 hc.2, rfl⟩
      · exact Or.inl rfl
    · split
      · rename_i hc; rw [Bool.and_eq_true, Bool.and_eq_true] at hc
        exact Or.inr ⟨[_, _, _, _], _, .four ‹_› hc.1.1 hc.1.2 hc.2, rfl⟩
      · exact Or.inl rfl
    · exact Or.inl rfl

theorem IsSeq.length_bounds {c : List UInt8} (h : IsSeq c) : 1 ≤ c.length ∧ c.length ≤ 4 := by
  cases h <;> simp

theorem IsSeq.isCont_getD {c : List UInt8} (h : IsSeq c) {i : Nat} (hi : i < c.length) :
    isCont (c[i]?.getD 0) = decide (0 < i) := by
  have lead : ∀ {b : UInt8} {n : Nat}, leadLen b = n + 1 → isCont b = false :=
    fun h => isCont_false_of_leadLen_ne_zero _ (by rw [h]; exact Nat.succ_ne_zero _)
  cases h with
  | one h1 =>
    obtain rfl : i = 0 := by simpa using hi
    exact lead h1
  | two h2 hs =>
    rcases (by simp at hi; omega : i = 0 ∨ i = 1) with rfl | rfl
    · exact lead h2
    · exact isCont_of_secondOk hs
  | three h3 hs c2 =>
    rcases (by simp at hi; omega : i = 0 ∨ i = 1 ∨ i = 2) with rfl | rfl | rfl
    · exact lead h3
    · exact isCont_of_secondOk hs
    · exact c2
  | four h4 hs c2 c3 =>
    rcases (by simp at hi; omega : i = 0 ∨ i = 1 ∨ i = 2 ∨ i = 3) with rfl | rfl | rfl | rfl
    · exact lead h4
    · exact isCont_of_secondOk hs
    · exact c2
    · exact c3

theorem isScalarEnc_iff (c : List UInt8) :
    isScalarEnc c = true ↔ c ≠ [] ∧ firstCharLen c = c.length := by
  simp [isScalarEnc]

theorem isScalarEnc_iff_isSeq (c : List UInt8) : isScalarEnc c = true ↔ IsSeq c := by
  rw [isScalarEnc_iff]
  constructor
  · rintro ⟨hne, hl⟩
    rcases firstCharLen_cases c with h0 | ⟨c', t, hc', rfl⟩
    · rw [h0] at hl; exact absurd (List.eq_nil_of_length_eq_zero hl.symm) hne
    · rw [hc'.firstCharLen_append, List.length_append] at hl
      obtain rfl : t = [] := List.eq_nil_of_length_eq_zero (by omega)
      rwa [List.append_nil]
  · intro h
    have hl := h.firstCharLen_append []
    rw [List.append_nil] at hl
    exact ⟨List.ne_nil_of_length_pos h.length_bounds.1, hl⟩

theorem isScalarEnc_length {c : List UInt8} (h : isScalarEnc c = true) :
    1 ≤ c.length ∧ c.length ≤ 4 :=
  ((isScalarEnc_iff_isSeq c).mp h).length_bounds

theorem firstCharLen_scalar_append {c : List UInt8} (hc : isScalarEnc c = true) (x : List UInt8) :
    firstCharLen (c ++ x) = c.length :=
  ((isScalarEnc_iff_isSeq c).mp hc).firstCharLen_append x

theorem exists_scalar_append {s : List UInt8} (h : firstCharLen s ≠ 0) :
    ∃ c t, isScalarEnc c = true ∧ s = c ++ t := by
  obtain ⟨c, t, hc, rfl⟩ := (firstCharLen_cases s).resolve_left h
  exact ⟨c, t, (isScalarEnc_iff_isSeq c).mpr hc, rfl⟩

theorem firstCharLen_le_length (s : List UInt8) : firstCharLen s ≤ s.length := by
  rcases firstCharLen_cases s with h | ⟨c, t, hc, rfl⟩
  · rw [h]; exact Nat.zero_le _
  · rw [hc.firstCharLen_append, List.length_append]; exact Nat.le_add_right _ _

theorem firstCharLen_le_four (s : List UInt8) : firstCharLen s ≤ 4 := by
  rcases firstCharLen_cases s with h | ⟨c, t, hc, rfl⟩
  · rw [h]; exact Nat.zero_le _
  · rw [hc.firstCharLen_append]; exact hc.length_bounds.2

theorem ne_nil_of_firstCharLen_ne_zero {s : List UInt8} (h : firstCharLen s ≠ 0) : s ≠ [] :=
  fun e => h (e ▸ rfl)

theorem firstCharLen_append (s x : List UInt8) (h : firstCharLen s ≠ 0) :
    firstCharLen (s ++ x) = firstCharLen s := by
  obtain ⟨c, t, hc, rfl⟩ := exists_scalar_append h
  rw [List.append_assoc, firstCharLen_scalar_append hc, firstCharLen_scalar_append hc]

theorem isScalarEnc_take_firstCharLen {s : List UInt8} (h : firstCharLen s ≠ 0) :
    isScalarEnc (s.take (firstCharLen s)) = true := by
  obtain ⟨c, t, hc, rfl⟩ := exists_scalar_append h
  rwa [firstCharLen_scalar_append hc, List.take_left]

theorem isCont_getD_of_lt_firstCharLen {s : List UInt8} {i : Nat} (h : i < firstCharLen s) :
    isCont (s[i]?.getD 0) = decide (0 < i) := by
  obtain ⟨c, t, hc, rfl⟩ := (firstCharLen_cases s).resolve_left (by omega)
  rw [hc.firstCharLen_append] at h
  rw [List.getElem?_append_left h, hc.isCont_getD h]

/-- The recursion of `validFuel`, `validUpToFuel` and `Spec.Str.charsFuel`: stop at a head that
is not a well-formed sequence, else peel it and spend one unit of fuel.  Since a peeled sequence
is never empty, fuel beyond the length of the string is never looked at, and at full fuel the
function unfolds one step.  (`hcons` spells the `match` the way the model does, so that each
instance is `rfl`.) -/
theorem peel_step {β : Type} {F : Nat → List UInt8 → β} {stop : List UInt8 → β}
    {step : Nat → List UInt8 → β → β} (hnil : ∀ f, F f [] = F 0 [])
    (hcons : ∀ f b t, F (f + 1) (b :: t) =
      match firstCharLen (b :: t) with
      | 0 => stop (b :: t)
      | n => step n (b :: t) (F f ((b :: t).drop n)))
    {s : List UInt8} (hs : s ≠ []) :
    F s.length s = if firstCharLen s = 0 then stop s else
      step (firstCharLen s) s (F (s.drop (firstCharLen s)).length (s.drop (firstCharLen s))) := by
  have unfold : ∀ f s, s ≠ [] → F (f + 1) s = if firstCharLen s = 0 then stop s else
      step (firstCharLen s) s (F f (s.drop (firstCharLen s))) := by
    intro f s hs
    obtain ⟨b, t, rfl⟩ := List.exists_cons_of_ne_nil hs
    rw [hcons]
    split
    · rename_i h; rw [if_pos h]
    · rename_i h; rw [if_neg h]
  have congr : ∀ f g s, s.length ≤ f → s.length ≤ g → F f s = F g s := by
    intro f
    induction f with
    | zero =>
      intro g s hf _
      obtain rfl : s = [] := List.eq_nil_of_length_eq_zero (Nat.le_zero.mp hf)
      exact (hnil g).symm
    | succ f ih =>
      intro g s hf hg
      by_cases hs : s = []
      · subst hs; rw [hnil, hnil g]
      · have hpos := List.length_pos_iff.mpr hs
        obtain ⟨g, rfl⟩ : ∃ g', g = g' + 1 := ⟨g - 1, by omega⟩
        rw [unfold f s hs, unfold g s hs]
        split
        · rfl
        · have := firstCharLen_le_length s
          rw [ih g _ (by rw [List.length_drop]; omega) (by rw [List.length_drop]; omega)]
  have hpos := List.length_pos_iff.mpr hs
  obtain ⟨n, hn⟩ : ∃ n, s.length = n + 1 := ⟨s.length - 1, by omega⟩
  rw [hn, unfold n s hs]
  split
  · rfl
  · have := firstCharLen_le_length s
    rw [congr n _ _ (by rw [List.length_drop]; omega) (Nat.le_refl _)]

@[simp] theorem valid_nil : valid [] = true := rfl

theorem valid_step {s : List UInt8} (hs : s ≠ []) :
    valid s = if firstCharLen s = 0 then false else valid (s.drop (firstCharLen s)) :=
  peel_step (F := validFuel) (stop := fun _ => false) (step := fun _ _ r => r)
    (fun f => by cases f <;> rfl) (fun _ _ _ => rfl) hs

theorem firstCharLen_ne_zero_of_valid {s : List UInt8} (hv : valid s = true) (h : s ≠ []) :
    firstCharLen s ≠ 0 := by
  intro h0
  rw [valid_step h, if_pos h0] at hv
  exact Bool.noConfusion hv

theorem firstCharLen_pos_of_valid {s : List UInt8} (hv : valid s = true) (h : s ≠ []) :
    0 < firstCharLen s := Nat.pos_of_ne_zero (firstCharLen_ne_zero_of_valid hv h)

theorem valid_scalar_append {c : List UInt8} (hc : isScalarEnc c = true) (x : List UInt8) :
    valid (c ++ x) = valid x := by
  have hl := (isScalarEnc_length hc).1
  have hne : c ++ x ≠ [] := by
    intro e; rw [List.append_eq_nil_iff] at e; rw [e.1] at hl; exact absurd hl (by decide)
  rw [valid_step hne, firstCharLen_scalar_append hc, if_neg (by omega), List.drop_left]

theorem valid_of_isScalarEnc {c : List UInt8} (hc : isScalarEnc c = true) : valid c = true := by
  have := valid_scalar_append hc []
  rwa [List.append_nil] at this

theorem scalar_induction {motive : List UInt8 → Prop}
    (stop : ∀ s, firstCharLen s = 0 → motive s)
    (step : ∀ c r, isScalarEnc c = true → motive r → motive (c ++ r)) (s : List UInt8) :
    motive s := by
  induction hn : s.length using Nat.strongRecOn generalizing s with
  | _ n ih =>
    by_cases h0 : firstCharLen s = 0
    · exact stop s h0
    · obtain ⟨c, t, hc, rfl⟩ := exists_scalar_append h0
      refine step c t hc (ih t.length ?_ t rfl)
      have := (isScalarEnc_length hc).1
      rw [← hn, List.length_append]; omega

theorem valid_induction {motive : List UInt8 → Prop} (nil : motive [])
    (step : ∀ c r, isScalarEnc c = true → valid r = true → motive r → motive (c ++ r)) :
    ∀ s, valid s = true → motive s := by
  refine scalar_induction ?_ ?_
  · intro s h0 hv
    by_cases hs : s = []
    · rw [hs]; exact nil
    · exact absurd h0 (firstCharLen_ne_zero_of_valid hv hs)
  · intro c r hc ih hv
    rw [valid_scalar_append hc] at hv
    exact step c r hc hv (ih hv)

theorem valid_drop_firstCharLen {s : List UInt8} (hv : valid s = true) :
    valid (s.drop (firstCharLen s)) = true := by
  by_cases hs : s = []
  · rw [hs]; rfl
  · have h0 := firstCharLen_ne_zero_of_valid hv hs
    rwa [valid_step hs, if_neg h0] at hv

theorem valid_append_left_eq {a : List UInt8} (ha : valid a = true) (b : List UInt8) :
    valid (a ++ b) = valid b := by
  revert ha
  refine valid_induction (motive := fun a => valid (a ++ b) = valid b) rfl ?_ a
  intro c r hc _ ih
  rw [List.append_assoc, valid_scalar_append hc, ih]

theorem valid_append {a b : List UInt8} (ha : valid a = true) (hb : valid b = true) :
    valid (a ++ b) = true := by
  rw [valid_append_left_eq ha, hb]

theorem valid_of_append_left {a b : List UInt8} (hab : valid (a ++ b) = true)
    (ha : valid a = true) : valid b = true := by
  rwa [valid_append_left_eq ha] at hab

theorem valid_append_iff_of_left {a b : List UInt8} (ha : valid a = true) :
    valid (a ++ b) = true ↔ valid b = true := by
  rw [valid_append_left_eq ha]

/-! ## Char boundaries -/

theorem isBoundary_eq (s : List UInt8) (i : Nat) :
    isBoundary s i = (decide (i ≤ s.length) && (decide (i = 0) || !isCont (s[i]?.getD 0))) := by
  unfold isBoundary
  by_cases h0 : i = 0
  · simp [h0]
  · by_cases h1 : i ≥ s.length
    · by_cases h2 : i = s.length
      · subst h2; simp [isCont]
      · have : ¬ i ≤ s.length := by omega
        simp [h0, h1, h2, this]
    · have : i ≤ s.length := by omega
      simp [h0, h1, this]

@[simp] theorem isBoundary_zero (s : List UInt8) : isBoundary s 0 = true := by
  simp [isBoundary_eq]

@[simp] theorem isBoundary_length (s : List UInt8) : isBoundary s s.length = true := by
  simp [isBoundary_eq, isCont]

theorem isBoundary_le_length {s : List UInt8} {i : Nat} (h : isBoundary s i = true) : i ≤ s.length := by
  rw [isBoundary_eq, Bool.and_eq_true, decide_eq_true_eq] at h
  exact h.1

theorem isBoundary_interior {s : List UInt8} {i : Nat} (h0 : 0 < i) (h : i < s.length) :
    isBoundary s i = !isCont (s[i]?.getD 0) := by
  rw [isBoundary_eq, decide_eq_true (by omega), decide_eq_false (by omega), Bool.true_and,
    Bool.false_or]

theorem isBoundary_iff (s : List UInt8) (i : Nat) :
    isBoundary s i = true ↔
      i = 0 ∨ i = s.length ∨ (i < s.length ∧ isCont (s[i]?.getD 0) = false) := by
  rw [isBoundary_eq, Bool.and_eq_true, Bool.or_eq_true, decide_eq_true_eq, decide_eq_true_eq,
    Bool.not_eq_true']
  constructor
  · rintro ⟨hi, h0 | hc⟩
    · exact Or.inl h0
    · exact (Nat.lt_or_eq_of_le hi).elim (fun h => Or.inr (Or.inr ⟨h, hc⟩)) (fun h => Or.inr (Or.inl h))
  · rintro (rfl | rfl | ⟨hi, hc⟩)
    · exact ⟨Nat.zero_le _, Or.inl rfl⟩
    · exact ⟨Nat.le_refl _, Or.inr (by rw [List.getElem?_eq_none (Nat.le_refl _)]; rfl)⟩
    · exact ⟨Nat.le_of_lt hi, Or.inr hc⟩

theorem head_not_cont_of_valid {s : List UInt8} (hv : valid s = true) :
    isCont (s[0]?.getD 0) = false := by
  by_cases h : s = []
  · subst h; rfl
  · exact isCont_getD_of_lt_firstCharLen (Nat.pos_of_ne_zero (firstCharLen_ne_zero_of_valid hv h))

theorem isBoundary_append_right_of_head (a : List UInt8) {b : List UInt8}
    (hb : isCont (b[0]?.getD 0) = false) (j : Nat) :
    isBoundary (a ++ b) (a.length + j) = isBoundary b j := by
  rw [isBoundary_eq, isBoundary_eq, List.getElem?_append_right (Nat.le_add_right _ _),
    Nat.add_sub_cancel_left, List.length_append]
  simp only [Nat.add_le_add_iff_left]
  by_cases hj : j = 0
  · subst hj; simp [hb]
  · rw [decide_eq_false (p := j = 0) hj, decide_eq_false (p := a.length + j = 0) (by omega)]

theorem isBoundary_append_right (a : List UInt8) {b : List UInt8} (hb : valid b = true) (j : Nat) :
    isBoundary (a ++ b) (a.length + j) = isBoundary b j :=
  isBoundary_append_right_of_head a (head_not_cont_of_valid hb) j

theorem isBoundary_append_left (a : List UInt8) {b : List UInt8} (hb : valid b = true) {i : Nat}
    (h : i ≤ a.length) : isBoundary (a ++ b) i = isBoundary a i := by
  by_cases hlt : i < a.length
  · rw [isBoundary_eq, isBoundary_eq, List.getElem?_append_left hlt, List.length_append,
      decide_eq_true (by omega), decide_eq_true h]
  · obtain rfl : i = a.length + 0 := by omega
    rw [isBoundary_append_right a hb 0, Nat.add_zero, isBoundary_length, isBoundary_zero]

theorem not_valid_take_inside {s : List UInt8} {k : Nat} (h0 : 0 < k) (hk : k < firstCharLen s) :
    valid (s.take k) = false := by
  have hl := firstCharLen_le_length s
  have hne : s.take k ≠ [] := List.ne_nil_of_length_pos (by rw [List.length_take]; omega)
  -- a well-formed sequence at the head of `s.take k` would be the one at the head of `s`
  have : firstCharLen (s.take k) = 0 := by
    apply Classical.byContradiction
    intro hn
    have h1 := firstCharLen_append (s.take k) (s.drop k) hn
    rw [List.take_append_drop] at h1
    have h2 := firstCharLen_le_length (s.take k)
    rw [List.length_take] at h2
    omega
  rw [valid_step hne, if_pos this]

/-- Inside a valid string, the prefix up to `i` is valid exactly when `i` is a char boundary
(`is_char_boundary`): this is what makes `slice`, `truncate`, `split_off`… preserve validity, and
what makes their rejections necessary. -/
theorem valid_take_eq_isBoundary {s : List UInt8} (hv : valid s = true) {i : Nat}
    (hi : i ≤ s.length) : valid (s.take i) = isBoundary s i := by
  revert i
  refine valid_induction
    (motive := fun s => ∀ {i : Nat}, i ≤ s.length → valid (s.take i) = isBoundary s i) ?_ ?_ s hv
  · intro i hi
    obtain rfl : i = 0 := by simpa using hi
    rfl
  · intro c r hc hr ih i hi
    have hl := firstCharLen_scalar_append hc r
    by_cases hin : i < c.length
    · by_cases h0 : i = 0
      · subst h0; simp
      · -- strictly inside the first scalar: not a boundary, and the prefix is not valid
        rw [isBoundary_interior (by omega) (by rw [List.length_append]; omega),
          isCont_getD_of_lt_firstCharLen (by rw [hl]; exact hin), decide_eq_true (by omega : 0 < i)]
        exact not_valid_take_inside (by omega) (by rw [hl]; exact hin)
    · -- at or after the end of the first scalar: reduce to the rest
      obtain ⟨j, rfl⟩ : ∃ j, i = c.length + j := ⟨i - c.length, by omega⟩
      rw [List.length_append] at hi
      rw [isBoundary_append_right c hr, List.take_length_add_append, valid_scalar_append hc]
      exact ih (by omega)

theorem valid_take_of_boundary {s : List UInt8} (hv : valid s = true) {i : Nat}
    (hb : isBoundary s i = true) : valid (s.take i) = true := by
  rwa [valid_take_eq_isBoundary hv (isBoundary_le_length hb)]

theorem valid_of_append_right {a b : List UInt8} (hab : valid (a ++ b) = true)
    (hb : valid b = true) : valid a = true := by
  have := valid_take_of_boundary hab
    (by rw [isBoundary_append_left a hb (Nat.le_refl _), isBoundary_length])
  rwa [List.take_left] at this

theorem valid_drop_eq_isBoundary {s : List UInt8} (hv : valid s = true) {i : Nat}
    (hi : i ≤ s.length) : valid (s.drop i) = isBoundary s i := by
  rw [← valid_take_eq_isBoundary hv hi]
  rw [← List.take_append_drop i s] at hv
  cases ht : valid (s.take i)
  · cases hd : valid (s.drop i)
    · rfl
    · rw [valid_of_append_right hv hd] at ht; exact Bool.noConfusion ht
  · exact valid_of_append_left hv ht

theorem valid_split_iff_boundary {s : List UInt8} (hv : valid s = true) {i : Nat}
    (hi : i ≤ s.length) :
    (valid (s.take i) = true ∧ valid (s.drop i) = true) ↔ isBoundary s i = true := by
  rw [valid_take_eq_isBoundary hv hi, valid_drop_eq_isBoundary hv hi, and_self]

theorem valid_drop_of_boundary {s : List UInt8} (hv : valid s = true) {i : Nat}
    (hb : isBoundary s i = true) : valid (s.drop i) = true := by
  rwa [valid_drop_eq_isBoundary hv (isBoundary_le_length hb)]

theorem not_valid_split_of_not_boundary {s : List UInt8} (hv : valid s = true) {i : Nat}
    (hi : i ≤ s.length) (hb : isBoundary s i = false) :
    valid (s.take i) = false ∨ valid (s.drop i) = false :=
  Or.inl (by rwa [valid_take_eq_isBoundary hv hi])

theorem valid_append_iff_of_right {a b : List UInt8} (hb : valid b = true) :
    valid (a ++ b) = true ↔ valid a = true :=
  ⟨fun h => valid_of_append_right h hb, fun h => valid_append h hb⟩

theorem valid_take_iff_boundary {s : List UInt8} (hv : valid s = true) {i : Nat}
    (hi : i ≤ s.length) : valid (s.take i) = true ↔ isBoundary s i = true := by
  rw [valid_take_eq_isBoundary hv hi]

theorem valid_drop_iff_boundary {s : List UInt8} (hv : valid s = true) {i : Nat}
    (hi : i ≤ s.length) : valid (s.drop i) = true ↔ isBoundary s i = true := by
  rw [valid_drop_eq_isBoundary hv hi]

theorem isBoundary_drop {s : List UInt8} {a : Nat} (ha : a ≤ s.length)
    (hd : valid (s.drop a) = true) (j : Nat) :
    isBoundary (s.drop a) j = isBoundary s (a + j) := by
  have := isBoundary_append_right (s.take a) hd j
  rw [List.take_append_drop, List.length_take, Nat.min_eq_left ha] at this
  exact this.symm

theorem isBoundary_take {s : List UInt8} {a : Nat} (ha : a ≤ s.length)
    (hd : valid (s.drop a) = true) {i : Nat} (hi : i ≤ a) :
    isBoundary (s.take a) i = isBoundary s i := by
  have := isBoundary_append_left (s.take a) hd (i := i)
    (by rw [List.length_take, Nat.min_eq_left ha]; exact hi)
  rw [List.take_append_drop] at this
  exact this.symm

theorem valid_window_eq_isBoundary {s : List UInt8} (hv : valid s = true) {a n : Nat}
    (ha : isBoundary s a = true) (hle : a + n ≤ s.length) :
    valid ((s.drop a).take n) = isBoundary s (a + n) := by
  have hd := valid_drop_of_boundary hv ha
  rw [valid_take_eq_isBoundary hd (by rw [List.length_drop]; omega),
    isBoundary_drop (isBoundary_le_length ha) hd]

theorem valid_slice_of_boundaries {s : List UInt8} (hv : valid s = true) {a b : Nat}
    (ha : isBoundary s a = true) (hb : isBoundary s b = true) (hab : a ≤ b) :
    valid ((s.drop a).take (b - a)) = true := by
  have hbl := isBoundary_le_length hb
  rw [valid_window_eq_isBoundary hv ha (by omega), Nat.add_sub_cancel' hab]
  exact hb

theorem valid_slice_of_boundaries' {s : List UInt8} (hv : valid s = true) {a b : Nat}
    (ha : isBoundary s a = true) (hb : isBoundary s b = true) (hab : a ≤ b)
    (_hbl : b ≤ s.length) : valid ((s.drop a).take (b - a)) = true :=
  valid_slice_of_boundaries hv ha hb hab

theorem boundary_end_of_valid_window {s : List UInt8} (hv : valid s = true) {a n : Nat}
    (hle : a + n ≤ s.length) (ha : isBoundary s a = true)
    (hw : valid ((s.drop a).take n) = true) : isBoundary s (a + n) = true := by
  rwa [← valid_window_eq_isBoundary hv ha hle]

theorem valid_cons_ascii {b : UInt8} (hb : b.toNat < 0x80) (t : List UInt8) :
    valid (b :: t) = valid t :=
  valid_scalar_append (c := [b])
    ((isScalarEnc_iff_isSeq _).mpr (.one ((leadLen_eq_one_iff b).mpr hb))) t

theorem valid_of_all_ascii {s : List UInt8} (h : ∀ b ∈ s, b.toNat < 0x80) : valid s = true := by
  induction s with
  | nil => rfl
  | cons b t ih =>
    rw [valid_cons_ascii (h b (List.mem_cons_self ..))]
    exact ih (fun x hx => h x (List.mem_cons_of_mem _ hx))

theorem isBoundary_of_all_ascii {s : List UInt8} (h : ∀ b ∈ s, b.toNat < 0x80) {i : Nat}
    (hi : i ≤ s.length) : isBoundary s i = true := by
  rw [isBoundary_eq, decide_eq_true hi, Bool.true_and, Bool.or_eq_true, Bool.not_eq_true']
  refine Or.inr ?_
  cases hg : s[i]? with
  | none => rfl
  | some b => exact isCont_of_lt_0x80 (h b (List.mem_of_getElem? hg))

/-! ## `encode` / `decode`

UTF-8 writes a scalar value in base 64, one digit per byte, the lead byte carrying the most
significant digit.  `digits*` say that digits determine the value and back; `range3`/`range4`
say that the second-byte restrictions of Table 3-7 (after `E0`, `ED`, `F0`, `F4`) are exactly
"not overlong, not a surrogate, at most U+10FFFF".  Each is one call to `omega` on small
variables; the proofs below only move between bytes and digits. -/

theorem digits2 {x y c : Nat} (hy : y < 64) : c = x * 64 + y ↔ x = c / 64 ∧ y = c % 64 := by
  omega

theorem digits3 {x y z c : Nat} (hy : y < 64) (hz : z < 64) :
    c = x * 4096 + y * 64 + z ↔ x = c / 4096 ∧ y = c / 64 % 64 ∧ z = c % 64 := by
  omega

theorem digits4 {x y z w c : Nat} (hy : y < 64) (hz : z < 64) (hw : w < 64) :
    c = x * 262144 + y * 4096 + z * 64 + w ↔
      x = c / 262144 ∧ y = c / 4096 % 64 ∧ z = c / 64 % 64 ∧ w = c % 64 := by
  omega

theorem range3 {x y z c : Nat} (hx : x ≤ 15) (hy : y < 64) (hz : z < 64)
    (hc : c = x * 4096 + y * 64 + z) :
    (x = 0 → 32 ≤ y) ∧ (x = 13 → y ≤ 31) ↔ 0x800 ≤ c ∧ (c < 0xD800 ∨ 0xDFFF < c) := by
  omega

theorem range4 {x y z w c : Nat} (hx : x ≤ 4) (hy : y < 64) (hz : z < 64) (hw : w < 64)
    (hc : c = x * 262144 + y * 4096 + z * 64 + w) :
    (x = 0 → 16 ≤ y) ∧ (x = 4 → y ≤ 15) ↔ 0x10000 ≤ c ∧ c < 0x110000 := by
  omega

theorem isScalar_iff (c : Nat) : isScalar c = true ↔ c < 0xD800 ∨ (0xDFFF < c ∧ c < 0x110000) := by
  simp [isScalar]

theorem decode_one {b0 : UInt8} (t : List UInt8) (hl : leadLen b0 = 1) :
    decode (b0 :: t) = b0.toNat := by
  have h : firstCharLen (b0 :: t) = 1 := (IsSeq.one hl).firstCharLen_append t
  simp [decode, h]

theorem decode_two {b0 b1 : UInt8} (t : List UInt8) (hl : leadLen b0 = 2)
    (hs : secondOk b0 b1 = true) :
    decode (b0 :: b1 :: t) = (b0.toNat - 0xC0) * 64 + (b1.toNat - 0x80) := by
  have h : firstCharLen (b0 :: b1 :: t) = 2 := (IsSeq.two hl hs).firstCharLen_append t
  simp [decode, h]

theorem decode_three {b0 b1 b2 : UInt8} (t : List UInt8) (hl : leadLen b0 = 3)
    (hs : secondOk b0 b1 = true) (h2 : isCont b2 = true) :
    decode (b0 :: b1 :: b2 :: t) =
      (b0.toNat - 0xE0) * 4096 + (b1.toNat - 0x80) * 64 + (b2.toNat - 0x80) := by
  have h : firstCharLen (b0 :: b1 :: b2 :: t) = 3 := (IsSeq.three hl hs h2).firstCharLen_append t
  simp [decode, h]

theorem decode_four {b0 b1 b2 b3 : UInt8} (t : List UInt8) (hl : leadLen b0 = 4)
    (hs : secondOk b0 b1 = true) (h2 : isCont b2 = true) (h3 : isCont b3 = true) :
    decode (b0 :: b1 :: b2 :: b3 :: t) =
      (b0.toNat - 0xF0) * 262144 + (b1.toNat - 0x80) * 4096 + (b2.toNat - 0x80) * 64
        + (b3.toNat - 0x80) := by
  have h : firstCharLen (b0 :: b1 :: b2 :: b3 :: t) = 4 :=
    (IsSeq.four hl hs h2 h3).firstCharLen_append t
  simp [decode, h]

theorem exists_offset {b : UInt8} {lo : Nat} (h : lo ≤ b.toNat) :
    ∃ x, b.toNat = lo + x ∧ b.toNat - lo = x ∧ UInt8.ofNat (lo + x) = b :=
  ⟨b.toNat - lo, by omega, rfl, by rw [Nat.add_sub_cancel' h, UInt8.ofNat_toNat]⟩

theorem encode_decode {s : List UInt8} (h : isScalarEnc s = true) :
    isScalar (decode s) = true ∧ encode (decode s) = s := by
  cases (isScalarEnc_iff_isSeq s).mp h with
  | @one b0 h1 =>
    rw [decode_one _ h1]
    rw [leadLen_eq_one_iff] at h1
    exact ⟨(isScalar_iff _).mpr (by omega), by rw [encode, if_pos h1, UInt8.ofNat_toNat]⟩
  | @two b0 b1 h2 hs =>
    rw [decode_two _ h2 hs]
    have h2 := (leadLen_eq_two_iff b0).mp h2
    obtain ⟨⟨l1, -⟩, u1, -⟩ := (secondOk_iff_toNat b0 b1).mp hs
    obtain ⟨x, hx, sx, ex⟩ := exists_offset (b := b0) (lo := 0xC0) (by omega)
    obtain ⟨y, hy, sy, ey⟩ := exists_offset l1
    rw [sx, sy]
    clear sx sy
    have hy' : y < 64 := by omega
    refine ⟨(isScalar_iff _).mpr (by omega), ?_⟩
    rw [encode, if_neg (by omega), if_pos (by omega)]
    obtain ⟨e0, e1⟩ := (digits2 (x := x) hy').mp rfl
    rw [← e0, ← e1, ex, ey]
  | @three b0 b1 b2 h3 hs c2 =>
    rw [decode_three _ h3 hs c2]
    have h3 := (leadLen_eq_three_iff b0).mp h3
    obtain ⟨⟨l1, hE0, -⟩, u1, hED, -⟩ := (secondOk_iff_toNat b0 b1).mp hs
    have c2 := (isCont_iff_toNat b2).mp c2
    obtain ⟨x, hx, sx, ex⟩ := exists_offset h3.1
    obtain ⟨y, hy, sy, ey⟩ := exists_offset l1
    obtain ⟨z, hz, sz, ez⟩ := exists_offset c2.1
    rw [sx, sy, sz]
    clear sx sy sz
    have hx' : x ≤ 15 := by omega
    have hy' : y < 64 := by omega
    have hz' : z < 64 := by omega
    have hr := (range3 hx' hy' hz' rfl).mp ⟨by omega, by omega⟩
    clear hE0 hED
    refine ⟨(isScalar_iff _).mpr (by omega), ?_⟩
    rw [encode, if_neg (by omega), if_neg (by omega), if_pos (by omega)]
    obtain ⟨e0, e1, e2⟩ := (digits3 (x := x) hy' hz').mp rfl
    rw [← e0, ← e1, ← e2, ex, ey, ez]
  | @four b0 b1 b2 b3 h4 hs c2 c3 =>
    rw [decode_four _ h4 hs c2 c3]
    have h4 := (leadLen_eq_four_iff b0).mp h4
    obtain ⟨⟨l1, -, hF0⟩, u1, -, hF4⟩ := (secondOk_iff_toNat b0 b1).mp hs
    have c2 := (isCont_iff_toNat b2).mp c2
    have c3 := (isCont_iff_toNat b3).mp c3
    obtain ⟨x, hx, sx, ex⟩ := exists_offset h4.1
    obtain ⟨y, hy, sy, ey⟩ := exists_offset l1
    obtain ⟨z, hz, sz, ez⟩ := exists_offset c2.1
    obtain ⟨w, hw, sw, ew⟩ := exists_offset c3.1
    rw [sx, sy, sz, sw]
    clear sx sy sz sw
    have hx' : x ≤ 4 := by omega
    have hy' : y < 64 := by omega
    have hz' : z < 64 := by omega
    have hw' : w < 64 := by omega
    have hr := (range4 hx' hy' hz' hw' rfl).mp ⟨by omega, by omega⟩
    clear hF0 hF4
    refine ⟨(isScalar_iff _).mpr (by omega), ?_⟩
    rw [encode, if_neg (by omega), if_neg (by omega), if_neg (by omega)]
    obtain ⟨e0, e1, e2, e3⟩ := (digits4 (x := x) hy' hz' hw').mp rfl
    rw [← e0, ← e1, ← e2, ← e3, ex, ey, ez, ew]

theorem encode_spec {c : Nat} (hc : isScalar c = true) :
    IsSeq (encode c) ∧ decode (encode c) = c := by
  rw [isScalar_iff] at hc
  rw [encode]
  split
  · rename_i h
    have t0 := toNat_ofNat_of_lt (n := c) (by omega)
    have h1 : leadLen (UInt8.ofNat c) = 1 := by rw [leadLen_eq_one_iff, t0]; exact h
    exact ⟨.one h1, by rw [decode_one _ h1, t0]⟩
  split
  · rename_i h80 h800
    have hy' := Nat.mod_lt c (show 0 < 64 by decide)
    have hcd := (digits2 hy').mpr ⟨rfl, rfl⟩
    generalize c / 64 = x, c % 64 = y at hy' hcd ⊢
    have t0 := toNat_ofNat_of_lt (n := 0xC0 + x) (by omega)
    have t1 := toNat_ofNat_of_lt (n := 0x80 + y) (by omega)
    have hl : leadLen (UInt8.ofNat (0xC0 + x)) = 2 := by rw [leadLen_eq_two_iff, t0]; omega
    have hs : secondOk (UInt8.ofNat (0xC0 + x)) (UInt8.ofNat (0x80 + y)) = true := by
      rw [secondOk_iff_toNat, t0, t1]; omega
    refine ⟨.two hl hs, ?_⟩
    rw [decode_two _ hl hs, t0, t1, Nat.add_sub_cancel_left, Nat.add_sub_cancel_left]
    exact hcd.symm
  split
  · rename_i h80 h800 h10000
    have hy' := Nat.mod_lt (c / 64) (show 0 < 64 by decide)
    have hz' := Nat.mod_lt c (show 0 < 64 by decide)
    have hcd := (digits3 hy' hz').mpr ⟨rfl, rfl, rfl⟩
    generalize c / 4096 = x, c / 64 % 64 = y, c % 64 = z at hy' hz' hcd ⊢
    have hx' : x ≤ 15 := by omega
    have hr := (range3 hx' hy' hz' hcd).mpr ⟨by omega, by omega⟩
    have t0 := toNat_ofNat_of_lt (n := 0xE0 + x) (by omega)
    have t1 := toNat_ofNat_of_lt (n := 0x80 + y) (by omega)
    have t2 := toNat_ofNat_of_lt (n := 0x80 + z) (by omega)
    have hl : leadLen (UInt8.ofNat (0xE0 + x)) = 3 := by rw [leadLen_eq_three_iff, t0]; omega
    have hs : secondOk (UInt8.ofNat (0xE0 + x)) (UInt8.ofNat (0x80 + y)) = true := by
      rw [secondOk_iff_toNat, t0, t1]; omega
    have h2 : isCont (UInt8.ofNat (0x80 + z)) = true := by rw [isCont_iff_toNat, t2]; omega
    refine ⟨.three hl hs h2, ?_⟩
    rw [decode_three _ hl hs h2, t0, t1, t2, Nat.add_sub_cancel_left, Nat.add_sub_cancel_left,
      Nat.add_sub_cancel_left]
    exact hcd.symm
  · rename_i h80 h800 h10000
    have hy' := Nat.mod_lt (c / 4096) (show 0 < 64 by decide)
    have hz' := Nat.mod_lt (c / 64) (show 0 < 64 by decide)
    have hw' := Nat.mod_lt c (show 0 < 64 by decide)
    have hcd := (digits4 hy' hz' hw').mpr ⟨rfl, rfl, rfl, rfl⟩
    generalize c / 262144 = x, c / 4096 % 64 = y, c / 64 % 64 = z, c % 64 = w at hy' hz' hw' hcd ⊢
    have hx' : x ≤ 4 := by omega
    have hr := (range4 hx' hy' hz' hw' hcd).mpr ⟨by omega, by omega⟩
    have t0 := toNat_ofNat_of_lt (n := 0xF0 + x) (by omega)
    have t1 := toNat_ofNat_of_lt (n := 0x80 + y) (by omega)
    have t2 := toNat_ofNat_of_lt (n := 0x80 + z) (by omega)
    have t3 := toNat_ofNat_of_lt (n := 0x80 + w) (by omega)
    have hl : leadLen (UInt8.ofNat (0xF0 + x)) = 4 := by rw [leadLen_eq_four_iff, t0]; omega
    have hs : secondOk (UInt8.ofNat (0xF0 + x)) (UInt8.ofNat (0x80 + y)) = true := by
      rw [secondOk_iff_toNat, t0, t1]; omega
    have h2 : isCont (UInt8.ofNat (0x80 + z)) = true := by rw [isCont_iff_toNat, t2]; omega
    have h3 : isCont (UInt8.ofNat (0x80 + w)) = true := by rw [isCont_iff_toNat, t3]; omega
    refine ⟨.four hl hs h2 h3, ?_⟩
    rw [decode_four _ hl hs h2 h3, t0, t1, t2, t3, Nat.add_sub_cancel_left,
      Nat.add_sub_cancel_left, Nat.add_sub_cancel_left, Nat.add_sub_cancel_left]
    exact hcd.symm

theorem isScalarEnc_encode {c : Nat} (hc : isScalar c = true) : isScalarEnc (encode c) = true :=
  (isScalarEnc_iff_isSeq _).mpr (encode_spec hc).1

theorem decode_encode {c : Nat} (hc : isScalar c = true) : decode (encode c) = c :=
  (encode_spec hc).2

/-- `push(ch)`: the encoding of a scalar value is valid UTF-8. -/
theorem valid_encode {c : Nat} (hc : isScalar c = true) : valid (encode c) = true :=
  valid_of_isScalarEnc (isScalarEnc_encode hc)

theorem firstCharLen_encode {c : Nat} (hc : isScalar c = true) :
    firstCharLen (encode c) = (encode c).length :=
  ((isScalarEnc_iff _).mp (isScalarEnc_encode hc)).2

theorem encode_length (c : Nat) :
    (encode c).length = if c < 0x80 then 1 else if c < 0x800 then 2 else if c < 0x10000 then 3 else 4 := by
  rw [encode]; split
  · rfl
  split
  · rfl
  split <;> rfl

theorem encode_length_le_four (c : Nat) : (encode c).length ≤ 4 := by
  rw [encode_length]; split
  · decide
  split
  · decide
  split <;> decide

theorem encode_injective {c d : Nat} (hc : isScalar c = true) (hd : isScalar d = true)
    (h : encode c = encode d) : c = d := by
  rw [← decode_encode hc, ← decode_encode hd, h]

theorem asciiOnly_id : AsciiOnly id := fun _ => ⟨fun _ => rfl, fun h => h⟩

theorem AsciiOnly.comp {f g : UInt8 → UInt8} (hf : AsciiOnly f) (hg : AsciiOnly g) :
    AsciiOnly (f ∘ g) := by
  intro b
  obtain ⟨g1, g2⟩ := hg b
  constructor
  · intro h; simp only [Function.comp, g1 h, (hf b).1 h]
  · intro h; exact (hf (g b)).2 (g2 h)

theorem AsciiOnly.firstCharLen_map {f : UInt8 → UInt8} (hf : AsciiOnly f) (s : List UInt8) :
    firstCharLen (s.map f) = firstCharLen s := by
  match s with
  | [] => rfl
  | b0 :: t =>
    have h4 := leadLen_le_four b0
    have hc : leadLen b0 = 0 ∨ leadLen b0 = 1 ∨ leadLen b0 = 2 ∨
        leadLen b0 = 3 ∨ leadLen b0 = 4 := by omega
    match t with
    | [] => rcases hc with h | h | h | h | h <;> simp [firstCharLen, hf.leadLen_eq, h]
    | [b1] =>
      rcases hc with h | h | h | h | h <;> simp [firstCharLen, hf.leadLen_eq, hf.secondOk_eq, h]
    | [b1, b2] =>
      rcases hc with h | h | h | h | h <;>
        simp [firstCharLen, hf.leadLen_eq, hf.secondOk_eq, hf.isCont_eq, h]
    | b1 :: b2 :: b3 :: t =>
      rcases hc with h | h | h | h | h <;>
        simp [firstCharLen, hf.leadLen_eq, hf.secondOk_eq, hf.isCont_eq, h]

theorem AsciiOnly.valid_map {f : UInt8 → UInt8} (hf : AsciiOnly f) (s : List UInt8) :
    valid (s.map f) = valid s := by
  refine scalar_induction (motive := fun s => valid (s.map f) = valid s) ?_ ?_ s
  · intro s h0
    by_cases hs : s = []
    · rw [hs]; rfl
    · rw [valid_step hs, valid_step (by simpa using hs), hf.firstCharLen_map, if_pos h0, if_pos h0]
  · intro c r hc ih
    have hc' : isScalarEnc (c.map f) = true := by
      rw [isScalarEnc_iff] at hc ⊢
      rw [hf.firstCharLen_map, List.length_map]
      exact ⟨by simpa using hc.1, hc.2⟩
    rw [List.map_append, valid_scalar_append hc, valid_scalar_append hc', ih]

theorem AsciiOnly.isBoundary_map {f : UInt8 → UInt8} (hf : AsciiOnly f) (s : List UInt8) (i : Nat) :
    isBoundary (s.map f) i = isBoundary s i := by
  rw [isBoundary_eq, isBoundary_eq, List.length_map, List.getElem?_map]
  cases s[i]? with
  | none => rfl
  | some b => simp only [Option.map_some, Option.getD_some, hf.isCont_eq]

theorem valid_map_asciiLower_eq (s : List UInt8) : valid (s.map asciiLower) = valid s :=
  asciiOnly_asciiLower.valid_map s

theorem valid_map_asciiUpper_eq (s : List UInt8) : valid (s.map asciiUpper) = valid s :=
  asciiOnly_asciiUpper.valid_map s

theorem isBoundary_map_asciiLower (s : List UInt8) (i : Nat) :
    isBoundary (s.map asciiLower) i = isBoundary s i :=
  asciiOnly_asciiLower.isBoundary_map s i

theorem isBoundary_map_asciiUpper (s : List UInt8) (i : Nat) :
    isBoundary (s.map asciiUpper) i = isBoundary s i :=
  asciiOnly_asciiUpper.isBoundary_map s i

/-! ## `lastCharStart` (`pop`) -/

theorem contRun_spec (l : List UInt8) :
    contRun l ≤ l.length ∧ (∀ j, j < contRun l → isCont (l[j]?.getD 0) = true) ∧
      (contRun l < l.length → isCont (l[contRun l]?.getD 0) = false) := by
  induction l with
  | nil => exact ⟨Nat.le_refl _, fun _ h => absurd h (Nat.not_lt_zero _), fun h => absurd h (Nat.not_lt_zero _)⟩
  | cons b t ih =>
    simp only [contRun]
    split
    · rename_i hb
      refine ⟨Nat.succ_le_succ ih.1, fun j hj => ?_, fun h => by simpa using ih.2.2 (Nat.lt_of_succ_lt_succ h)⟩
      cases j with
      | zero => simpa using hb
      | succ j => simpa using ih.2.1 j (Nat.lt_of_succ_lt_succ hj)
    · rename_i hb
      exact ⟨Nat.zero_le _, fun _ h => absurd h (Nat.not_lt_zero _), fun _ => by simpa using hb⟩

theorem contRun_eq {l : List UInt8} {k : Nat} (hk : k < l.length)
    (h0 : isCont (l[k]?.getD 0) = false) (h1 : ∀ j, j < k → isCont (l[j]?.getD 0) = true) :
    contRun l = k := by
  apply Nat.le_antisymm
  · apply Nat.le_of_not_lt
    intro h
    rw [(contRun_spec l).2.1 k h] at h0
    exact Bool.noConfusion h0
  · apply Nat.le_of_not_lt
    intro h
    have := (contRun_spec l).2.2 (Nat.lt_trans h hk)
    rw [h1 _ h] at this
    exact Bool.noConfusion this

theorem lastCharStart_nil : lastCharStart [] = 0 := rfl

theorem lastCharStart_lt {s : List UInt8} (h : s ≠ []) : lastCharStart s < s.length := by
  have := List.length_pos_iff.mpr h
  unfold lastCharStart; omega

/-- `pop` after `push`: the last scalar of `a ++ c` (with `c` one scalar) starts at `|a|`,
whatever `a` is: scanning backwards, the bytes of `c` after its lead are continuation bytes and
the lead is not. -/
theorem lastCharStart_append_scalar (a : List UInt8) {c : List UInt8} (hc : isScalarEnc c = true) :
    lastCharStart (a ++ c) = a.length := by
  have hs := (isScalarEnc_iff_isSeq c).mp hc
  have hl := hs.length_bounds.1
  have hrun : contRun (a ++ c).reverse = c.length - 1 := by
    rw [List.reverse_append]
    have idx : ∀ j, j < c.length → (c.reverse ++ a.reverse)[j]?.getD 0 = c[c.length - 1 - j]?.getD 0 := by
      intro j hj
      rw [List.getElem?_append_left (by rw [List.length_reverse]; exact hj), List.getElem?_reverse hj]
    apply contRun_eq
    · rw [List.length_append, List.length_reverse]; omega
    · rw [idx _ (by omega), Nat.sub_self, hs.isCont_getD hl]; rfl
    · intro j hj
      rw [idx j (by omega), hs.isCont_getD (by omega)]
      exact decide_eq_true (by omega)
  unfold lastCharStart
  rw [hrun, List.length_append]; omega

theorem exists_last_scalar {s : List UInt8} (hv : valid s = true) (hs : s ≠ []) :
    ∃ a c, s = a ++ c ∧ valid a = true ∧ isScalarEnc c = true := by
  revert hs
  refine valid_induction (motive := fun s => s ≠ [] → ∃ a c, s = a ++ c ∧ valid a = true ∧
    isScalarEnc c = true) (fun h => absurd rfl h) ?_ s hv
  intro c r hc hr ih _
  by_cases hr0 : r = []
  · exact ⟨[], c, by rw [hr0, List.append_nil, List.nil_append], rfl, hc⟩
  · obtain ⟨a, c', rfl, ha, hc'⟩ := ih hr0
    exact ⟨c ++ a, c', (List.append_assoc ..).symm, by rwa [valid_scalar_append hc], hc'⟩

/-- `lastCharStart` is rustc's reverse scan (skip continuation bytes, then one lead); it finds the
start of the last scalar on VALID input only, which is all the lemmas below claim. -/
theorem lastCharStart_cut {s : List UInt8} (hv : valid s = true) (hs : s ≠ []) :
    valid (s.take (lastCharStart s)) = true ∧ isScalarEnc (s.drop (lastCharStart s)) = true := by
  obtain ⟨a, c, rfl, ha, hc⟩ := exists_last_scalar hv hs
  rw [lastCharStart_append_scalar a hc, List.take_left, List.drop_left]
  exact ⟨ha, hc⟩

theorem valid_take_lastCharStart {s : List UInt8} (hv : valid s = true) :
    valid (s.take (lastCharStart s)) = true := by
  by_cases hs : s = []
  · subst hs; rfl
  · exact (lastCharStart_cut hv hs).1

theorem isScalarEnc_drop_lastCharStart {s : List UInt8} (hv : valid s = true) (hs : s ≠ []) :
    isScalarEnc (s.drop (lastCharStart s)) = true :=
  (lastCharStart_cut hv hs).2

theorem isBoundary_lastCharStart {s : List UInt8} (hv : valid s = true) (hs : s ≠ []) :
    isBoundary s (lastCharStart s) = true := by
  rw [← valid_take_eq_isBoundary hv (Nat.le_of_lt (lastCharStart_lt hs))]
  exact valid_take_lastCharStart hv

/-- `pop`: on a valid non-empty string, `lastCharStart` is an in-range boundary, the remaining
prefix is valid, and the removed tail is the encoding of one scalar value. -/
theorem lastCharStart_spec {s : List UInt8} (hv : valid s = true) (hs : s ≠ []) :
    isBoundary s (lastCharStart s) = true ∧ lastCharStart s < s.length ∧
    valid (s.take (lastCharStart s)) = true ∧
    ∃ c, isScalar c = true ∧ s.drop (lastCharStart s) = encode c :=
  have he := encode_decode (isScalarEnc_drop_lastCharStart hv hs)
  ⟨isBoundary_lastCharStart hv hs, lastCharStart_lt hs, valid_take_lastCharStart hv,
    _, he.1, he.2.symm⟩

theorem encode_decode_drop_lastCharStart {s : List UInt8} (hv : valid s = true) (hs : s ≠ []) :
    encode (decode (s.drop (lastCharStart s))) = s.drop (lastCharStart s) :=
  (encode_decode (isScalarEnc_drop_lastCharStart hv hs)).2

theorem lastCharStart_append_encode {a : List UInt8} (ha : valid a = true) {c : Nat}
    (hc : isScalar c = true) : lastCharStart (a ++ encode c) = a.length :=
  lastCharStart_append_scalar a (isScalarEnc_encode hc)

theorem valid_flatten {ps : List (List UInt8)} (h : ∀ p ∈ ps, valid p = true) :
    valid ps.flatten = true := by
  induction ps with
  | nil => rfl
  | cons p ps ih =>
    rw [List.flatten_cons]
    exact valid_append (h p (List.mem_cons_self ..))
      (ih (fun q hq => h q (List.mem_cons_of_mem _ hq)))

theorem valid_replicate_flatten {s : List UInt8} (h : valid s = true) (n : Nat) :
    valid (List.replicate n s).flatten = true :=
  valid_flatten (fun _ hp => by rw [List.eq_of_mem_replicate hp]; exact h)

theorem mem_intersperse_imp {α : Type} {sep : α} :
    ∀ {xs : List α} {p : α}, p ∈ xs.intersperse sep → p = sep ∨ p ∈ xs
  | [], _, h => by simp at h
  | [x], _, h => by
    simp only [List.intersperse_singleton, List.mem_singleton] at h
    exact Or.inr (by simp [h])
  | x :: y :: zs, p, h => by
    rw [List.intersperse_cons_cons] at h
    simp only [List.mem_cons] at h
    rcases h with h | h | h
    · exact Or.inr (by simp [h])
    · exact Or.inl h
    · rcases mem_intersperse_imp (xs := y :: zs) h with h | h
      · exact Or.inl h
      · exact Or.inr (List.mem_cons_of_mem _ h)

theorem valid_intercalate {sep : List UInt8} {ps : List (List UInt8)} (hsep : valid sep = true)
    (h : ∀ p ∈ ps, valid p = true) : valid (sep.intercalate ps) = true := by
  rw [List.intercalate]
  apply valid_flatten
  intro p hp
  rcases mem_intersperse_imp hp with rfl | hp
  · exact hsep
  · exact h p hp

theorem valid_append3 {a b c : List UInt8} (ha : valid a = true) (hb : valid b = true)
    (hc : valid c = true) : valid (a ++ b ++ c) = true :=
  valid_append (valid_append ha hb) hc

/-! ## `validUpTo` (`Utf8Error::valid_up_to`) -/

@[simp] theorem validUpTo_nil : validUpTo [] = 0 := rfl

theorem validUpTo_step (s : List UInt8) :
    validUpTo s =
      if firstCharLen s = 0 then 0 else firstCharLen s + validUpTo (s.drop (firstCharLen s)) := by
  by_cases hs : s = []
  · rw [hs]; rfl
  exact peel_step (F := validUpToFuel) (stop := fun _ => 0) (step := fun n _ r => n + r)
    (fun f => by cases f <;> rfl) (fun _ _ _ => rfl) hs

theorem validUpTo_scalar_append {c : List UInt8} (hc : isScalarEnc c = true) (x : List UInt8) :
    validUpTo (c ++ x) = c.length + validUpTo x := by
  have hl := (isScalarEnc_length hc).1
  rw [validUpTo_step, firstCharLen_scalar_append hc, if_neg (by omega), List.drop_left]

theorem validUpTo_spec (s : List UInt8) :
    validUpTo s ≤ s.length ∧ valid (s.take (validUpTo s)) = true ∧
    firstCharLen (s.drop (validUpTo s)) = 0 := by
  refine scalar_induction (motive := fun s => validUpTo s ≤ s.length ∧
    valid (s.take (validUpTo s)) = true ∧ firstCharLen (s.drop (validUpTo s)) = 0) ?_ ?_ s
  · intro s h0
    rw [validUpTo_step, if_pos h0]
    exact ⟨Nat.zero_le _, rfl, h0⟩
  · intro c r hc ih
    rw [validUpTo_scalar_append hc, List.length_append, List.take_length_add_append,
      List.drop_length_add_append, valid_scalar_append hc]
    exact ⟨by omega, ih.2.1, ih.2.2⟩

theorem validUpTo_le (s : List UInt8) : validUpTo s ≤ s.length := (validUpTo_spec s).1

theorem valid_take_validUpTo (s : List UInt8) : valid (s.take (validUpTo s)) = true :=
  (validUpTo_spec s).2.1

theorem firstCharLen_drop_validUpTo (s : List UInt8) :
    firstCharLen (s.drop (validUpTo s)) = 0 := (validUpTo_spec s).2.2

theorem validUpTo_append_of_valid {a : List UInt8} (ha : valid a = true) (b : List UInt8) :
    validUpTo (a ++ b) = a.length + validUpTo b := by
  revert ha
  refine valid_induction (motive := fun a => validUpTo (a ++ b) = a.length + validUpTo b) ?_ ?_ a
  · simp
  · intro c r hc _ ih
    rw [List.append_assoc, validUpTo_scalar_append hc, ih, List.length_append, Nat.add_assoc]

theorem validUpTo_of_valid {s : List UInt8} (hv : valid s = true) : validUpTo s = s.length := by
  have := validUpTo_append_of_valid hv []
  rwa [List.append_nil, validUpTo_nil, Nat.add_zero] at this

theorem valid_iff_validUpTo (s : List UInt8) : valid s = true ↔ validUpTo s = s.length := by
  constructor
  · exact validUpTo_of_valid
  · intro h
    have := valid_take_validUpTo s
    rwa [h, List.take_length] at this

theorem validUpTo_lt_of_not_valid {s : List UInt8} (h : valid s = false) :
    validUpTo s < s.length := by
  have h1 := validUpTo_le s
  have h2 : validUpTo s ≠ s.length := by
    intro e
    rw [(valid_iff_validUpTo s).mpr e] at h
    exact Bool.noConfusion h
  omega

theorem validUpTo_take_validUpTo (s : List UInt8) :
    validUpTo (s.take (validUpTo s)) = validUpTo s := by
  have h := validUpTo_of_valid (valid_take_validUpTo s)
  rw [h, List.length_take, Nat.min_eq_left (validUpTo_le s)]

/-! ## `decodeLossy` (`from_utf8_lossy`) -/

theorem valid_replacement : valid replacement = true := by decide

theorem valid_decodeLossyFuel : ∀ (f : Nat) (s : List UInt8), valid (decodeLossyFuel f s) = true := by
  intro f
  induction f with
  | zero => intro s; cases s <;> rfl
  | succ f ih =>
    intro s
    cases s with
    | nil => rfl
    | cons b t =>
      simp only [decodeLossyFuel]
      split
      · split
        · exact valid_replacement
        · exact valid_append valid_replacement (ih _)
      · rename_i hn
        exact valid_append (valid_of_isScalarEnc (isScalarEnc_take_firstCharLen hn)) (ih _)

theorem valid_decodeLossy (s : List UInt8) : valid (decodeLossy s) = true :=
  valid_decodeLossyFuel _ _

theorem decodeLossyFuel_of_valid : ∀ (f : Nat) (s : List UInt8), s.length ≤ f → valid s = true →
    decodeLossyFuel f s = s := by
  intro f
  induction f with
  | zero =>
    intro s hf _
    obtain rfl : s = [] := List.eq_nil_of_length_eq_zero (Nat.le_zero.mp hf)
    rfl
  | succ f ih =>
    intro s hf hv
    cases s with
    | nil => rfl
    | cons b t =>
      have h0 := firstCharLen_ne_zero_of_valid hv (List.cons_ne_nil b t)
      have hl := firstCharLen_le_length (b :: t)
      simp only [List.length_cons] at hf hl
      simp only [decodeLossyFuel]
      rw [ih _ (by rw [List.length_drop, List.length_cons]; omega) (valid_drop_firstCharLen hv),
        List.take_append_drop]

theorem decodeLossy_of_valid {s : List UInt8} (hv : valid s = true) : decodeLossy s = s :=
  decodeLossyFuel_of_valid _ _ (Nat.le_refl _) hv

-- "aé€🦀"
example : valid [0x61, 0xC3, 0xA9, 0xE2, 0x82, 0xAC, 0xF0, 0x9F, 0xA6, 0x80] = true := by decide
example : valid [0xED, 0xA0, 0x80] = false := by decide          -- surrogate
example : valid [0xC0, 0x80] = false := by decide                -- overlong
example : valid [0xF4, 0x90, 0x80, 0x80] = false := by decide    -- > U+10FFFF
example : valid [0xE2, 0x82] = false := by decide                -- truncated
example : (List.range 12).map (isBoundary [0x61, 0xC3, 0xA9, 0xE2, 0x82, 0xAC, 0xF0, 0x9F, 0xA6, 0x80])
    = [true, true, false, true, false, false, true, false, false, false, true, false] := by decide
example : lastCharStart [0x61, 0xC3, 0xA9, 0xE2, 0x82, 0xAC, 0xF0, 0x9F, 0xA6, 0x80] = 6 := by decide
example : encode 0x1F980 = [0xF0, 0x9F, 0xA6, 0x80] := by decide
example : decode [0xE2, 0x82, 0xAC] = 0x20AC := by decide
example : validUpTo [0x61, 0xC3, 0xA9, 0xE2, 0x82, 0x41] = 3 := by decide
example : errorLen [0x61, 0xC3, 0xA9, 0xE2, 0x82, 0x41] = some 2 := by decide
example : errorLen [0x61, 0xE2, 0x82] = none := by decide
example : decodeLossy [0x61, 0xE2, 0x82, 0x41, 0xFF] = [0x61, 0xEF, 0xBF, 0xBD, 0x41, 0xEF, 0xBF, 0xBD] := by decide
example : [0x41, 0xC3, 0x89, 0x5A].map asciiLower = [0x61, 0xC3, 0x89, 0x7A] := by decide

end HipVerif.Utf8
