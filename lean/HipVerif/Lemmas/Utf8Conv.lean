/-
  Theorems about the conversion doors of `Model/Utf8Conv.lean` (C06): UTF-16 decoding (strict
  and lossy) always yields valid UTF-8, fails exactly on unpaired surrogates, and the lossy
  decoder agrees with the strict one whenever the latter succeeds; the strict byte doors accept
  exactly the valid strings and hand back their input otherwise.
-/
import HipVerif.Lemmas.Utf8
import HipVerif.Model.Utf8Conv

namespace HipVerif.Utf8

/-! ## UTF-16 -/

theorem isLow_not_high {u : UInt16} (h : isLowSurrogate u = true) : isHighSurrogate u = false := by
  simp only [isLowSurrogate, isHighSurrogate, Bool.and_eq_true, decide_eq_true_eq,
    Bool.and_eq_false_iff, decide_eq_false_iff_not] at h ⊢
  omega

theorem isHigh_of_not_plain {u : UInt16} (hns : ¬ (!isHighSurrogate u && !isLowSurrogate u) = true)
    (hnl : ¬ isLowSurrogate u = true) : isHighSurrogate u = true := by
  cases hh : isHighSurrogate u
  · simp [hh, hnl] at hns
  · rfl

theorem utf16Scalars_isScalar (v : List UInt16) :
    ∀ c, some c ∈ utf16Scalars v → isScalar c = true := by
  fun_induction utf16Scalars v with
  | case1 => intro c h; simp at h
  | case2 u t hns ih =>
    intro c h
    simp only [List.mem_cons, Option.some.injEq] at h
    rcases h with rfl | h
    · have hlt := UInt16.toNat_lt u
      simp only [isHighSurrogate, isLowSurrogate, Bool.and_eq_true, Bool.not_eq_eq_eq_not,
        Bool.not_true, Bool.and_eq_false_iff, decide_eq_false_iff_not] at hns
      rw [isScalar_iff]
      omega
    · exact ih c h
  | case3 u t _ _ ih =>
    intro c h
    simp only [List.mem_cons, reduceCtorEq, false_or] at h
    exact ih c h
  | case4 u _ _ =>
    intro c h; simp at h
  | case5 u hns hnl u2 t2 hl ih =>
    intro c h
    simp only [List.mem_cons, Option.some.injEq] at h
    rcases h with h | h
    · have hlt := UInt16.toNat_lt u
      have hlt2 := UInt16.toNat_lt u2
      have hhigh := isHigh_of_not_plain hns hnl
      simp only [isHighSurrogate, isLowSurrogate, Bool.and_eq_true, decide_eq_true_eq] at hhigh hl
      rw [isScalar_iff]
      omega
    · exact ih c h
  | case6 u _ _ u2 t2 _ ih =>
    intro c h
    simp only [List.mem_cons, reduceCtorEq, false_or] at h
    exact ih c h

theorem valid_decodeUtf16Lossy (v : List UInt16) : valid (decodeUtf16Lossy v) = true := by
  unfold decodeUtf16Lossy
  rw [List.flatMap_def]
  apply valid_flatten
  intro p hp
  simp only [List.mem_map] at hp
  obtain ⟨o, ho, rfl⟩ := hp
  cases o with
  | none => exact valid_encode (by decide)
  | some c => exact valid_encode (utf16Scalars_isScalar v c ho)

/-- When the strict decoder succeeds, the lossy one returns the same bytes. -/
theorem decodeUtf16Lossy_eq_of_some {v : List UInt16} {bs : List UInt8}
    (h : decodeUtf16 v = some bs) : decodeUtf16Lossy v = bs := by
  unfold decodeUtf16 at h
  simp only at h
  split at h
  · rename_i hall
    simp only [Option.some.injEq] at h
    subst h
    unfold decodeUtf16Lossy
    rw [List.flatMap_def, List.flatMap_def]
    congr 1
    apply List.map_congr_left
    intro o ho
    cases o with
    | none =>
      have := (List.all_eq_true.mp hall) none ho
      simp at this
    | some c => rfl
  · exact absurd h (by simp)

/-- `from_utf16` produces valid UTF-8 when it succeeds. -/
theorem valid_decodeUtf16 {v : List UInt16} {bs : List UInt8} (h : decodeUtf16 v = some bs) :
    valid bs = true := by
  rw [← decodeUtf16Lossy_eq_of_some h]; exact valid_decodeUtf16Lossy v

theorem decodeUtf16_none_iff_mem (v : List UInt16) :
    decodeUtf16 v = none ↔ none ∈ utf16Scalars v := by
  unfold decodeUtf16
  simp only
  split
  · rename_i hall
    constructor
    · intro h; exact absurd h (by simp)
    · intro hm
      have := (List.all_eq_true.mp hall) none hm
      simp at this
  · rename_i hall
    constructor
    · intro _
      apply Classical.byContradiction
      intro hn
      apply hall
      rw [List.all_eq_true]
      intro o ho
      cases o with
      | none => exact absurd ho hn
      | some c => rfl
    · intro _; rfl

theorem none_mem_utf16Scalars_iff (v : List UInt16) :
    none ∈ utf16Scalars v ↔ hasUnpairedSurrogate false v = true := by
  fun_induction utf16Scalars v with
  | case1 => simp [hasUnpairedSurrogate]
  | case2 u t hns ih =>
    simp only [Bool.and_eq_true, Bool.not_eq_eq_eq_not, Bool.not_true] at hns
    simp only [List.mem_cons, reduceCtorEq, false_or, hasUnpairedSurrogate, hns.1, hns.2,
      Bool.false_and, Bool.false_or]
    exact ih
  | case3 u t _ hl ih =>
    simp [hasUnpairedSurrogate, hl]
  | case4 u hns hnl =>
    have hhigh := isHigh_of_not_plain hns hnl
    simp [hasUnpairedSurrogate, hhigh]
  | case5 u hns hnl u2 t2 hl ih =>
    have hhigh := isHigh_of_not_plain hns hnl
    have hnl' : isLowSurrogate u = false := by simpa using hnl
    simp only [List.mem_cons, reduceCtorEq, false_or, hasUnpairedSurrogate, hhigh, hnl', hl,
      isLow_not_high hl, List.head?_cons, Option.map_some, Option.getD_some, Bool.not_true,
      Bool.and_false, Bool.false_and, Bool.false_or]
    exact ih
  | case6 u hns hnl u2 t2 hl ih =>
    have hhigh := isHigh_of_not_plain hns hnl
    have hl' : isLowSurrogate u2 = false := by simpa using hl
    simp [hasUnpairedSurrogate, hhigh, hl']

/-- `from_utf16` fails exactly on an unpaired surrogate. -/
theorem decodeUtf16_none_iff (v : List UInt16) :
    decodeUtf16 v = none ↔ hasUnpairedSurrogate false v = true := by
  rw [decodeUtf16_none_iff_mem, none_mem_utf16Scalars_iff]

theorem decodeUtf16_eq_some_lossy {v : List UInt16} (h : hasUnpairedSurrogate false v = false) :
    decodeUtf16 v = some (decodeUtf16Lossy v) := by
  cases hd : decodeUtf16 v with
  | none =>
    rw [decodeUtf16_none_iff] at hd
    rw [hd] at h
    exact Bool.noConfusion h
  | some bs => rw [decodeUtf16Lossy_eq_of_some hd]

/-! ## Strict byte doors -/

theorem toStr_isSome_iff (bs : List UInt8) : (toStr bs).isSome = true ↔ valid bs = true := by
  unfold toStr; split <;> simp_all

theorem toStr_eq_some {bs r : List UInt8} (h : toStr bs = some r) : r = bs ∧ valid r = true := by
  unfold toStr at h
  split at h
  · cases h; exact ⟨rfl, ‹_›⟩
  · cases h

theorem toStr_eq_none_iff (bs : List UInt8) : toStr bs = none ↔ valid bs = false := by
  unfold toStr; split <;> simp_all

theorem intoStr_ok {bs r : List UInt8} (h : intoStr bs = .ok r) : r = bs ∧ valid r = true := by
  unfold intoStr at h
  split at h
  · cases h; exact ⟨rfl, ‹_›⟩
  · cases h

theorem intoStr_error {bs e : List UInt8} (h : intoStr bs = .error e) :
    e = bs ∧ valid bs = false := by
  unfold intoStr at h
  split at h
  · cases h
  · cases h; exact ⟨rfl, Bool.eq_false_iff.mpr ‹_›⟩

theorem fromUtf8_ok {bs r : List UInt8} (h : fromUtf8 bs = .ok r) : r = bs ∧ valid r = true := by
  unfold fromUtf8 at h
  split at h
  · cases h; exact ⟨rfl, ‹_›⟩
  · cases h

theorem fromUtf8_error {bs back : List UInt8} {k : Nat} (h : fromUtf8 bs = .error (k, back)) :
    back = bs ∧ valid bs = false ∧ k < bs.length ∧ valid (bs.take k) = true ∧
      firstCharLen (bs.drop k) = 0 := by
  unfold fromUtf8 at h
  split at h
  · cases h
  · cases h
    have hv : valid bs = false := Bool.eq_false_iff.mpr ‹_›
    exact ⟨rfl, hv, validUpTo_lt_of_not_valid hv, valid_take_validUpTo bs,
      firstCharLen_drop_validUpTo bs⟩

theorem fromUtf8_isOk_iff (bs : List UInt8) : (fromUtf8 bs).isOk = true ↔ valid bs = true := by
  unfold fromUtf8; split <;> simp_all [Except.isOk, Except.toBool]

/-- Comparing LENGTHS does not detect a replacement: a truncated
4-byte sequence is 3 bytes long, like U+FFFD. -/
theorem lossy_same_length_counterexample :
    valid [0xF0, 0x9F, 0xA6] = false ∧
    (decodeLossy [0xF0, 0x9F, 0xA6]).length = [0xF0, 0x9F, 0xA6].length ∧
    decodeLossy [0xF0, 0x9F, 0xA6] ≠ [0xF0, 0x9F, 0xA6] := by decide

example : decodeUtf16 [0x0061, 0xD83E, 0xDD80] = some [0x61, 0xF0, 0x9F, 0xA6, 0x80] := by decide
example : decodeUtf16 [0x0061, 0xD83E] = none := by decide
example : decodeUtf16 [0xDD80, 0xD83E] = none := by decide
example : decodeUtf16Lossy [0xD83E, 0xD83E, 0xDD80, 0xDD80] =
    [0xEF, 0xBF, 0xBD, 0xF0, 0x9F, 0xA6, 0x80, 0xEF, 0xBF, 0xBD] := by decide

end HipVerif.Utf8
