/-
The slot-level ThinVec operations, fault-free, against the list-level model `TV.step`
(Model/Vecs.lean): scope `Small`, abstraction `absTV`, operation mapping `toTVOp`, one lemma per
operation (`RefTV`: returned value, contents, capacity) under the common assumptions `TScope`,
and their dispatch `tStep_refines`.
-/
import HipVerif.Lemmas.SlotsRefineTV
namespace HipVerif.Slots
variable {fl : Bool}
open HipVerif.Vecs (IV TV Outcome Val Reason PanicClass DrainEnd Src TVParams)
open HipVerif.Spec.Vec (Bnd Side)

def Op.size : Op → Nat
  | .resize n | .resizeWith n | .extSlice n | .append n | .reserve n => n
  | .extWithin _ b => b
  | .extIter h n => max h n
  | _ => 0

/-- Scope of the ThinVec refinement: the slot model has unbounded capacities and does not model
the "capacity overflow" / "buffer too large" panics of requests above `isize::MAX` bytes; the two
models are compared while capacities and arguments stay below `2^40` elements of at most 1 KiB. -/
def Small (s : St) (op : Op) : Prop :=
  s.v.cap ≤ smallBound ∧ op.size ≤ smallBound ∧ s.v.h.esz ≤ 1024

def absTV (alT : Nat) (s : St) : TV Nat := ⟨s.v.cap, absL s, s.v.h.esz, alT, 8, 8⟩

/-- The list-model operation that a slot-model operation on a ThinVec stands for (see `toIVOp`).
`resize` appends `n - len - 1` clones and then the value itself; the list model is told these ids. -/
def toTVOp (s : St) : Op → Option (Vecs.Op Nat)
  | .push => some (.push s.mem.next)
  | .pop => some .pop
  | .insert i => some (.insert i s.mem.next)
  | .remove i => some (.remove i)
  | .swapRemove i => some (.swapRemove i)
  | .truncate n => some (.truncate n)
  | .clear => some .clear
  | .resize n =>
    if n > s.v.len then
      some (.extendFromSlice (List.range' (s.mem.next + 1) (n - s.v.len - 1) ++ [s.mem.next]))
    else some (.truncate n)
  | .extSlice n => some (.extendFromSlice (List.range' (s.mem.next + n) n))
  | .extWithin a b =>
    if a ≤ b ∧ b ≤ s.v.len then some (.extendFromSlice (List.range' s.mem.next (b - a)))
    else some (.extendFromWithin (.incl a) (.excl b))
  | .extIter h n => some (.extend h (List.range' s.mem.next n))
  | .append n => some (.append (List.range' s.mem.next n))
  | .splitOff a => some (.splitOff a)
  | .drain a b sc f => some (.drain (.incl a) (.excl b) (sc.flatMap sidesOf) (finOf f))
  | .reserve n => some (.reserve n)
  | .shrinkFit => some .shrinkToFit
  | .roundtrip => if s.v.len ≤ rtCap then some (.from .other 0 (absL s)) else none
  | .tryPush | .tryInsert _ | .resizeWith _ | .intoIter _ _ | .clone | .dropVec | .popIf _
  | .fromIter _ _ => none

theorem OwnL.esz_pos {s loc locB} (h : OwnL fl s loc locB) (ht : s.v.h.thin = true)
    (hal : s.v.h.alive = true) : 0 < s.v.h.esz := by
  obtain ⟨_, _, _, _, hk, _⟩ := h
  exact (hk.2 ht hal).1

theorem tExtIterLoop_refines (alT mn : Nat) (ha : AlignOk alT) : ∀ (k i : Nat) (s : St)
    (L loc locB : List Nat), OwnL fl s loc locB → LocalVec s.v L → s.mem.budget = none →
    s.v.h.thin = true → s.v.h.alive = true → s.v.h.esz ≤ 1024 → s.v.cap ≤ 8 * smallBound →
    L.length + k ≤ 2 * smallBound → (i < mn → L.length + (mn - i) ≤ s.v.cap) →
    (tExtIterLoop mn i k s).1 = false ∧
    ∃ L', LocalVec (tExtIterLoop mn i k s).2.v L' ∧
      HdrKeep s.v.h (tExtIterLoop mn i k s).2.v.h ∧
      TV.extendLoop (⟨s.v.cap, L, s.v.h.esz, alT, 8, 8⟩ : TV Nat) mn i
          (List.range' s.mem.next k) =
        (.ok .unit, ⟨(tExtIterLoop mn i k s).2.v.cap, L', s.v.h.esz, alT, 8, 8⟩) ∧
      (tExtIterLoop mn i k s).2.mem.budget = none
  | 0, i, s, L, loc, locB, h, hv, hb, ht, hal, he, hc, hk, hroom => by
    simp only [tExtIterLoop, List.range'_zero, TV.extendLoop]
    exact ⟨(Mem.tick_of_none hb).1, L, hv, HdrKeep.of_eq rfl, rfl, (Mem.tick_of_none hb).2⟩
  | k + 1, i, s, L, loc, locB, h, hv, hb, ht, hal, he, hc, hk, hroom => by
    unfold tExtIterLoop
    have hpos := h.esz_pos ht hal
    have hle := hv.len_le
    have h1 := h.genVal
    obtain ⟨m', e1, e2, e3, e4⟩ := Mem.genVal_of_none hb
    simp only [St.onMem_eq, e1] at h1 ⊢
    simp only [List.range'_succ, TV.extendLoop]
    by_cases hge : i ≥ mn
    · simp only [hge, if_true]
      obtain ⟨f1, f2, f3, f4, f5⟩ := reserve_facts 1 h1.1 (s := { s with mem := m' }) hv ht hal
      rw [reserve_bridge L hv.1 hpos ha he hc (by rw [hv.1]; omega)]
      simp only
      have hp := St.store_post (s := ({ s with mem := m' } : St).reserve 1) s.mem.next f1 (by omega)
      have hmem : (St.store s.mem.next (({ s with mem := m' } : St).reserve 1)).mem = m' :=
        (St.store_mem _ f1 (by omega)).trans f5
      have hcap' : (s.v.reserve 1).cap ≤ 8 * smallBound := by
        have := reserve_one_cap_le hpos (by rw [hv.1]; exact hle)
        rw [hv.1] at this
        simp only [smallBound] at hk hc this ⊢; omega
      have ih := tExtIterLoop_refines alT mn ha k (i + 1) _ (L ++ [s.mem.next]) loc locB
        ((h1.1.reserve 1 ht hal).1.store (by rw [f1.1]; omega))
        hp.view (by rw [hmem]; exact e2) (by rw [hp.hdr, f3]; exact ht)
        (by rw [hp.hdr, f3]; exact hal) (by rw [hp.hdr, f3]; exact he)
        (by rw [hp.cap, f2]; exact hcap') (by simp; omega) (by intro; omega)
      rw [hmem, e4, hp.cap, f2, hp.hdr, f3] at ih
      exact ih
    · simp only [hge, if_false]
      have hroom' := hroom (by omega)
      have hp := St.store_post (s := ({ s with mem := m' } : St)) s.mem.next hv (by simp only; omega)
      have hmem : (St.store s.mem.next ({ s with mem := m' } : St)).mem = m' :=
        St.store_mem (s := { s with mem := m' }) _ hv (by simp only; omega)
      have ih := tExtIterLoop_refines alT mn ha k (i + 1) _ (L ++ [s.mem.next]) loc locB
        (h1.1.store (by simp only; rw [hv.1]; omega))
        hp.view (by rw [hmem]; exact e2) (by rw [hp.hdr]; exact ht)
        (by rw [hp.hdr]; exact hal) (by rw [hp.hdr]; exact he)
        (by rw [hp.cap]; exact hc) (by simp; omega) (by intro; rw [hp.cap]; simp; omega)
      rw [hmem, e4, hp.cap, hp.hdr] at ih
      exact ih

/-- `extend_iter` after its two leading user calls: `reserve(hint)` and the loop -/
theorem tExtIter_refines {s loc locB} {L : List Nat} (alT hint n : Nat) (h : OwnL fl s loc locB)
    (hv : LocalVec s.v L) (hb : s.mem.budget = none) (ht : s.v.h.thin = true)
    (hal : s.v.h.alive = true) (ha : AlignOk alT) (he : s.v.h.esz ≤ 1024)
    (hc : s.v.cap ≤ smallBound) (hsz : max hint n ≤ smallBound) :
    (tExtIter hint n s).1 = false ∧
    ∃ L', LocalVec (tExtIter hint n s).2.v L' ∧ HdrKeep s.v.h (tExtIter hint n s).2.v.h ∧
      TV.afterReserve (⟨s.v.cap, L, s.v.h.esz, alT, 8, 8⟩ : TV Nat) hint
          (fun s' => s'.extendLoop hint 0 (List.range' s.mem.next n)) =
        (.ok .unit, ⟨(tExtIter hint n s).2.v.cap, L', s.v.h.esz, alT, 8, 8⟩) ∧
      (tExtIter hint n s).2.mem.budget = none := by
  have hle := hv.len_le
  have hpos := h.esz_pos ht hal
  have hc8 : s.v.cap ≤ 8 * smallBound := by omega
  rw [show tExtIter hint n s = tExtIterLoop hint 0 n (s.reserve hint) from rfl]
  rw [afterReserve_bridge L _ hv.1 hpos ha he hc8
    (by rw [hv.1]; omega)]
  have f0 := (h.reserve hint ht hal).1
  obtain ⟨f1, f2, f3, f4, f5⟩ := reserve_facts hint h hv ht hal
  have hcapr : (s.v.reserve hint).cap ≤ 8 * smallBound := by
    have := reserve_cap_le (v := s.v) hint hpos
    rw [hv.1] at this
    simp only [smallBound] at hc hsz this ⊢; omega
  have key := tExtIterLoop_refines alT hint ha n 0 (s.reserve hint) L loc locB f0 f1
    (by rw [f5]; exact hb) (by rw [f3]; exact ht) (by rw [f3]; exact hal)
    (by rw [f3]; exact he) (by rw [f2]; exact hcapr)
    (by omega) (by intro; omega)
  rw [f5, f2, f3] at key
  exact key

structure TScope (fl : Bool) (alT : Nat) (s : St) (loc locB L : List Nat) : Prop where
  own : OwnL fl s loc locB
  view : LocalVec s.v L
  quiet : s.mem.budget = none
  thin : s.v.h.thin = true
  alive : s.v.h.alive = true
  align : AlignOk alT
  esz : s.v.h.esz ≤ 1024
  cap : s.v.cap ≤ smallBound

theorem TScope.pos {alT s loc locB L} (c : TScope fl alT s loc locB L) : 0 < s.v.h.esz :=
  c.own.esz_pos c.thin c.alive

theorem TScope.afterReserve {alT s loc locB L} (c : TScope fl alT s loc locB L) {add : Nat}
    (hadd : add ≤ smallBound) (f : TV Nat → Outcome Nat × TV Nat) :
    TV.afterReserve (⟨s.v.cap, L, s.v.h.esz, alT, 8, 8⟩ : TV Nat) add f =
      f ⟨(s.v.reserve add).cap, L, s.v.h.esz, alT, 8, 8⟩ := by
  have h1 := c.cap
  have h2 := c.view.len_le
  exact afterReserve_bridge L f c.view.1 c.pos c.align c.esz (by omega)
    (by rw [c.view.1]; omega)

theorem TScope.withCapacity {alT s loc locB L} (c : TScope fl alT s loc locB L) {n : Nat}
    (hn : n ≤ smallBound) :
    (TV.withCapacity ⟨s.v.h.esz, alT, 8, 8⟩ n : Option (TV Nat)) =
      some ⟨roundCap s.v.h.esz (max n (minCap s.v.h.esz)), [], s.v.h.esz, alT, 8, 8⟩ :=
  withCapacity_bridge c.pos c.align c.esz hn

structure RefTV (alT : Nat) (s : St) (r : Ret × St) (q : Outcome Nat × TV Nat) : Prop where
  ret : retMatch r.1 q.1
  post : PostT s r.2 q.2.xs q.2.cap
  par : q.2.szT = s.v.h.esz ∧ q.2.alT = alT ∧ q.2.szP = 8 ∧ q.2.alP = 8

variable {alT : Nat} {s : St} {loc locB L : List Nat}

/-- The operations that never touch the capacity are compared with the list-level InlineVec
(`RefIV`); the list-level ThinVec does the same to the contents and keeps everything else. -/
theorem RefIV.toTV {r : Ret × St} {q : Outcome Nat × IV Nat} {q' : Outcome Nat × TV Nat}
    (h : RefIV s r q) (e : q' = (q.1, ⟨q.2.cap, q.2.xs, s.v.h.esz, alT, 8, 8⟩)) :
    RefTV alT s r q' := by
  subst e
  exact ⟨h.ret, ⟨h.post.view, h.post.cap.trans h.cap.symm, HdrKeep.of_eq h.post.hdr⟩,
    rfl, rfl, rfl, rfl⟩

theorem tPush_refines (c : TScope fl alT s loc locB L) :
    RefTV alT s (tPush s) ((⟨s.v.cap, L, s.v.h.esz, alT, 8, 8⟩ : TV Nat).push s.mem.next) := by
  obtain ⟨f1, -, -, f4, -⟩ :=
    reserve_facts 1 c.own.mkVal (s := (s.onMem Mem.mkVal).2) c.view c.thin c.alive
  have hp := St.store_post s.mem.next f1 (by omega)
  unfold TV.push
  rw [c.afterReserve (by decide)]
  exact ⟨trivial, hp.afterReserve rfl, rfl, rfl, rfl, rfl⟩

theorem tPop_refines (c : TScope fl alT s loc locB L) :
    RefTV alT s (iPop s) (⟨s.v.cap, L, s.v.h.esz, alT, 8, 8⟩ : TV Nat).pop :=
  (iPop_refines c.view).toTV (by rw [TV.pop_spec, IV.pop_spec])

theorem tInsert_refines (c : TScope fl alT s loc locB L) (i : Nat) :
    RefTV alT s (tInsert i s) ((⟨s.v.cap, L, s.v.h.esz, alT, 8, 8⟩ : TV Nat).insert i s.mem.next) := by
  have hl : (s.onMem Mem.mkVal).2.v.len = L.length := c.view.1
  unfold tInsert TV.insert
  dsimp only
  by_cases hi : i ≤ L.length
  · rw [if_pos (hl ▸ hi), if_pos hi, c.afterReserve (by decide)]
    obtain ⟨f1, -, -, f4, -⟩ :=
      reserve_facts 1 c.own.mkVal (s := (s.onMem Mem.mkVal).2) c.view c.thin c.alive
    rw [tInsert_eq i _ (hl ▸ hi) (by rw [f1.1, hl]) (by rw [hl]; exact f4)]
    exact ⟨trivial, (f1.insertCore s.mem.next i hi (by omega)).1.afterReserve rfl, rfl, rfl, rfl, rfl⟩
  · rw [if_neg (hl ▸ hi), if_neg hi]
    exact ⟨nofun, (Post.same c.view (by rfl)).toT, rfl, rfl, rfl, rfl⟩

theorem tRemove_refines (c : TScope fl alT s loc locB L) (i : Nat) :
    RefTV alT s (iRemove i s) ((⟨s.v.cap, L, s.v.h.esz, alT, 8, 8⟩ : TV Nat).remove i) := by
  refine (iRemove_refines i c.view).toTV ?_
  unfold TV.remove IV.remove
  dsimp only
  split
  · split <;> rfl
  · rfl

theorem tSwapRemove_refines (c : TScope fl alT s loc locB L) (i : Nat) :
    RefTV alT s (tSwapRemove i s) ((⟨s.v.cap, L, s.v.h.esz, alT, 8, 8⟩ : TV Nat).swapRemove i) := by
  obtain ⟨r, p, -⟩ := tSwapRemove_spec i c.view
  unfold TV.swapRemove
  dsimp only
  by_cases hi : i < L.length
  · have hl : L.length - 1 < L.length := by omega
    rw [if_pos hi, List.getElem?_eq_getElem hi, List.getElem?_eq_getElem hl]
    rw [swapRemoved_of_lt hi, List.dropLast_eq_take, List.length_set] at p
    rw [List.getElem?_eq_getElem hi] at r
    exact ⟨by rw [r]; rfl, p.toT, rfl, rfl, rfl, rfl⟩
  · rw [if_neg hi]
    rw [swapRemoved_of_ge hi] at p
    rw [List.getElem?_eq_none (by omega)] at r
    exact ⟨by rw [r]; nofun, p.toT, rfl, rfl, rfl, rfl⟩

theorem tTruncate_refines (c : TScope fl alT s loc locB L) (n : Nat) :
    RefTV alT s (liftB (tTruncate n s))
      ((⟨s.v.cap, L, s.v.h.esz, alT, 8, 8⟩ : TV Nat).truncate n) := by
  obtain ⟨r, p, -⟩ := tTruncate_spec n c.view c.quiet
  exact (truncate_refines r p).toTV (by rw [TV.truncate_eq, IV.truncate_eq])

theorem tClear_refines (c : TScope fl alT s loc locB L) :
    RefTV alT s (liftB (tClear s)) (⟨s.v.cap, L, s.v.h.esz, alT, 8, 8⟩ : TV Nat).clear := by
  obtain ⟨r, p, -⟩ := truncate_post Mem.dropSlice_of_none c.view c.quiet (Nat.zero_le _)
    ((s.setLen 0).v.range 0 s.v.len)
  exact (truncate_refines (r := tClear s) r p).toTV (by rw [IV.truncate_eq]; rfl)

theorem tResize_refines (c : TScope fl alT s loc locB L) (n : Nat) (hn : n ≤ smallBound) :
    RefTV alT s (liftB (tResize n s)) (if n > L.length
      then (⟨s.v.cap, L, s.v.h.esz, alT, 8, 8⟩ : TV Nat).extendFromSlice
        (List.range' (s.mem.next + 1) (n - L.length - 1) ++ [s.mem.next])
      else (⟨s.v.cap, L, s.v.h.esz, alT, 8, 8⟩ : TV Nat).truncate n) := by
  have hl : (s.onMem Mem.mkVal).2.v.len = L.length := c.view.1
  have hb' : (s.onMem Mem.mkVal).2.mem.budget = none := c.quiet
  unfold liftB tResize
  dsimp only
  by_cases h1n : n > L.length
  · rw [if_pos (hl ▸ h1n), if_pos h1n, hl]
    unfold TV.extendFromSlice
    rw [show (List.range' (s.mem.next + 1) (n - L.length - 1) ++ [s.mem.next]).length
      = n - L.length by simp; omega, c.afterReserve (by omega)]
    obtain ⟨f1, -, -, f4, f5⟩ := reserve_facts (n - L.length) c.own.mkVal
      (s := (s.onMem Mem.mkVal).2) c.view c.thin c.alive
    rw [tFillClone_eq]
    obtain ⟨w1, w2, -, -, -⟩ := storeLoop_filled
      (List.replicate (n - L.length - 1) (some (s.onMem Mem.mkVal).1))
      ((s.onMem Mem.mkVal).2.reserve (n - L.length)) L f1 (by rw [f5]; exact hb') (by simp; omega)
    rw [List.length_replicate, f5] at w2
    generalize storeLoop _ ((s.onMem Mem.mkVal).2.reserve (n - L.length)) = r2 at w1 w2
    obtain ⟨p, s2⟩ := r2
    simp only at w1 w2
    subst w1
    have hp := St.store_post s.mem.next w2.view
      (by rw [w2.cap]; simp only [List.length_append, List.length_range']; omega)
    rw [List.append_assoc] at hp
    exact ⟨trivial, (hp.trans w2.cap w2.hdr).afterReserve rfl, rfl, rfl, rfl, rfl⟩
  · rw [if_neg (hl ▸ h1n), if_neg h1n]
    obtain ⟨t1, t2, t3⟩ := tTruncate_spec n (s := (s.onMem Mem.mkVal).2) c.view hb'
    refine ((truncate_refines t1 t2).then_drop (s := s) _ rfl t3).toTV ?_
    rw [TV.truncate_eq, IV.truncate_eq]
    rfl

theorem tExtSlice_refines (c : TScope fl alT s loc locB L) (n : Nat) (hn : n ≤ smallBound) :
    RefTV alT s (liftB (tExtSlice n s)) ((⟨s.v.cap, L, s.v.h.esz, alT, 8, 8⟩ : TV Nat).extendFromSlice
      (List.range' (s.mem.next + n) n)) := by
  unfold TV.extendFromSlice liftB
  rw [List.length_range', c.afterReserve hn]
  unfold tExtSlice
  obtain ⟨m1, m2, m3, m4, -⟩ := mkVals_spec n s
  obtain ⟨_, _, ho⟩ := mkVals_own n s c.own
  generalize mkVals n s = r at m1 m2 m3 m4 ho
  obtain ⟨srcs, s1⟩ := r
  simp only at m1 m2 m3 m4 ho ⊢
  have hl : (srcs.map some).length = n := by rw [m1]; simp
  obtain ⟨f1, -, -, f4, f5⟩ := reserve_facts n ho (by rw [m2]; exact c.view)
    (by rw [m2]; exact c.thin) (by rw [m2]; exact c.alive)
  rw [tGuardedClone_eq, Nat.add_zero, St.setLen_self rfl]
  obtain ⟨w1, w2, -, -, -⟩ := storeLoop_filled (srcs.map some) (s1.reserve n) L f1
    (by rw [f5, m4]; exact c.quiet) (by rw [hl]; exact f4)
  generalize storeLoop (srcs.map some) (s1.reserve n) = r2 at w1 w2
  obtain ⟨p, s3⟩ := r2
  simp only at w1 w2
  subst w1
  rw [hl, f5, m3] at w2
  simp only [Bool.false_eq_true, if_false, St.setLen_len]
  have hlen : s3.v.len = (s1.reserve n).v.len + n := by rw [w2.view.1, f1.1]; simp
  refine ⟨trivial, ?_, rfl, rfl, rfl, rfl⟩
  show PostT s ((s3.setLen ((s1.reserve n).v.len + n)).withMem _) _ _
  rw [St.setLen_self hlen]
  exact (w2.then_mem (St.withMem_v _ s3)).afterReserve m2

theorem tExtWithin_refines (c : TScope fl alT s loc locB L) (a b : Nat) (hb : b ≤ smallBound) :
    RefTV alT s (liftB (tExtWithin a b s)) (if a ≤ b ∧ b ≤ L.length
      then (⟨s.v.cap, L, s.v.h.esz, alT, 8, 8⟩ : TV Nat).extendFromSlice
        (List.range' s.mem.next (b - a))
      else (⟨s.v.cap, L, s.v.h.esz, alT, 8, 8⟩ : TV Nat).extendFromWithin (.incl a) (.excl b)) := by
  unfold liftB tExtWithin
  rw [c.view.1]
  split
  · rename_i h1
    unfold TV.extendFromSlice
    rw [List.length_range', c.afterReserve (by omega)]
    obtain ⟨f1, -, -, f4, f5⟩ := reserve_facts (b - a) c.own c.view c.thin c.alive
    dsimp only
    rw [tWithinLoop_eq_of_view f1 h1 f4 (by rw [f5]; exact c.own.view_notout c.view)]
    have := storeLoop_filled (((L.drop a).take (b - a)).map some) _ L f1
      (by rw [f5]; exact c.quiet) (by simp; omega)
    rw [show (((L.drop a).take (b - a)).map some).length = b - a by simp; omega] at this
    rw [this.ok]
    exact ⟨trivial, this.post.afterReserve rfl, rfl, rfl, rfl, rfl⟩
  · rename_i h1
    obtain ⟨e, he'⟩ := rangeMono_invalid (len := L.length) h1
    simp only [TV.extendFromWithin, TV.tryExtendFromWithin, he']
    exact ⟨nofun, (Post.same c.view rfl).toT, rfl, rfl, rfl, rfl⟩

theorem tAppend_refines (c : TScope fl alT s loc locB L) (n : Nat) (hn : n ≤ smallBound) :
    RefTV alT s (liftB (tAppend n s)) ((⟨s.v.cap, L, s.v.h.esz, alT, 8, 8⟩ : TV Nat).append
      (List.range' s.mem.next n)) := by
  unfold TV.append liftB
  rw [List.length_range', c.afterReserve hn]
  unfold tAppend
  obtain ⟨m1, m2, m3, m4, -⟩ := mkVals_spec n s
  obtain ⟨_, _, ho⟩ := mkVals_own n s c.own
  generalize mkVals n s = r at m1 m2 m3 m4 ho
  obtain ⟨ids, s1⟩ := r
  simp only at m1 m2 m3 m4 ho ⊢
  have hl : ids.length = n := by rw [m1]; simp
  have h1 := ho.alloc
  have hv1 : (s1.onMem Mem.alloc).2.v = s1.v := rfl
  generalize s1.onMem Mem.alloc = r at h1 hv1
  obtain ⟨ob, s2⟩ := r
  simp only at h1 hv1 ⊢
  have hv2 : LocalVec s2.v L := by rw [hv1, m2]; exact c.view
  obtain ⟨f1, -, -, f4, -⟩ := reserve_facts n h1 hv2 (by rw [hv1, m2]; exact c.thin)
    (by rw [hv1, m2]; exact c.alive)
  have hr := fun c hd => (LocalVec.of_ids (c := c) (hd := hd) hl).range
  simp only at hr
  simp only [hr, Vec.setLen, Vec.range_zero_zero, Mem.markDropSlots]
  obtain ⟨p, -⟩ := St.wrChunk_post (s := s2.reserve n) (T := ids) f1 (by rw [hl]; exact f4)
  rw [hl] at p
  simp only [St.wrChunk_len]
  rw [← m1]
  exact ⟨trivial, (p.then_mem (s'' := St.withMem _ _) rfl).afterReserve (hv1.trans m2),
    rfl, rfl, rfl, rfl⟩

theorem tSplitOff_refines (c : TScope fl alT s loc locB L) (a : Nat) :
    RefTV alT s (liftB (tSplitOff a s)) ((⟨s.v.cap, L, s.v.h.esz, alT, 8, 8⟩ : TV Nat).splitOff a) := by
  have h1 := c.cap
  have h2 := c.view.len_le
  unfold TV.splitOff liftB tSplitOff
  dsimp only
  rw [c.view.1]
  split
  · rename_i h
    simp only [TV.params, c.withCapacity (n := L.length - a) (by omega)]
    have hw := tWithCap_own (L.length - a) s.v.h.esz s.v.h.tracked c.own
    rcases e1 : tWithCap (L.length - a) s.v.h.esz s.v.h.tracked s with ⟨_ | o, s1⟩ <;>
      rw [e1] at hw <;> simp only at hw ⊢
    · exact absurd c.quiet hw.2.2
    obtain ⟨e2, -, -, e3⟩ := hw
    replace e3 := e3 c.quiet
    have hb2 : ((s1.chk (decide (L.length - a ≤ o.cap))).setLen a).mem.budget = none := by
      rw [St.setLen_mem, St.chk_budget]; exact e3
    have hf := (tDropVec_frame ((o.writeChunk 0 ((s1.chk (decide (L.length - a ≤ o.cap))).v.range
      a L.length)).setLen (L.length - a)) ((s1.chk (decide (L.length - a ≤ o.cap))).setLen a)
      ((s1.chk (decide (L.length - a ≤ o.cap))).setLen a).v).2
    rw [(tDropVec_quiet _ _ hb2).1]
    refine ⟨trivial, ⟨?_, ?_, HdrKeep.of_eq ?_⟩, rfl, rfl, rfl, rfl⟩
    · rw [hf, St.setLen, St.chk_v, e2]; exact c.view.setLen_take a h
    · rw [hf]; simp [St.setLen, Vec.setLen, Vec.cap, St.chk_v, e2]
    · rw [hf]; simp [St.setLen, Vec.setLen, St.chk_v, e2]
  · exact ⟨nofun, (Post.same c.view rfl).toT, rfl, rfl, rfl, rfl⟩

theorem tDrain_refines (c : TScope fl alT s loc locB L) (a b : Nat) (sc : List IStep) (f : IFin) :
    RefTV alT s (liftB (drainOp a b sc f s)) ((⟨s.v.cap, L, s.v.h.esz, alT, 8, 8⟩ : TV Nat).drain
      (.incl a) (.excl b) (sc.flatMap sidesOf) (finOf f)) := by
  refine (drainOp_refines a b sc f c.own c.view c.quiet).toTV ?_
  unfold TV.drain IV.drain TV.drainCore
  dsimp only
  rcases Vecs.rangeMono (.incl a) (.excl b) L.length with e | ⟨a', b'⟩
  · rfl
  · cases finOf f <;> rfl

theorem tReserve_refines (c : TScope fl alT s loc locB L) (n : Nat) (hn : n ≤ smallBound) :
    RefTV alT s (.unit, s.reserve n) ((⟨s.v.cap, L, s.v.h.esz, alT, 8, 8⟩ : TV Nat).reserve n) := by
  have h1 := c.cap
  have h2 := c.view.len_le
  rw [reserve_bridge L c.view.1 c.pos c.align c.esz (by omega)
    (by rw [c.view.1]; omega)]
  exact ⟨trivial, ⟨c.view.reserve n, rfl, HdrKeep.of_eq (Vec.reserve_h n s.v)⟩, rfl, rfl, rfl, rfl⟩

theorem tShrinkFit_refines (c : TScope fl alT s loc locB L) :
    RefTV alT s (.unit, tShrinkFit s) (⟨s.v.cap, L, s.v.h.esz, alT, 8, 8⟩ : TV Nat).shrinkToFit := by
  have h1 := c.cap
  have h2 := c.view.len_le
  unfold TV.shrinkToFit tShrinkFit
  dsimp only
  rw [c.view.1]
  split
  · exact ⟨trivial, (Post.same c.view rfl).toT, rfl, rfl, rfl, rfl⟩
  · rw [setCapacity_bridge L c.pos c.align c.esz (by simp only [smallBound] at h1 ⊢; omega)
      (by simp only [smallBound] at h1 ⊢; omega), ← Vec.setCapacity_cap]
    exact ⟨trivial, ⟨c.view.setCapacity _ (Nat.le_refl _), rfl,
      HdrKeep.of_eq (Vec.setCapacity_h _ s.v)⟩, rfl, rfl, rfl, rfl⟩

theorem tExtend_refines (c : TScope fl alT s loc locB L) (hint n : Nat)
    (hsz : max hint n ≤ smallBound) :
    RefTV alT s (liftB (tExtend hint n s)) ((⟨s.v.cap, L, s.v.h.esz, alT, 8, 8⟩ : TV Nat).extend hint
      (List.range' s.mem.next n)) := by
  unfold TV.extend liftB tExtend
  -- the two user calls before the loop (`into_iter`, `size_hint`) only move the call counter
  obtain ⟨t1, t2, t3, t4, -⟩ := St.tick_quiet c.quiet
  have h1 := c.own.tick
  generalize s.onMem Mem.tick = r at t1 t2 t3 t4 h1
  obtain ⟨p0, s1⟩ := r
  simp only at t1 t2 t3 t4 h1 ⊢
  subst t1
  obtain ⟨u1, u2, u3, u4, -⟩ := St.tick_quiet t4
  have h2 := h1.tick
  generalize s1.onMem Mem.tick = r at u1 u2 u3 u4 h2
  obtain ⟨p1, s2⟩ := r
  simp only at u1 u2 u3 u4 h2 ⊢
  subst u1
  simp only [Bool.false_eq_true, if_false]
  have hvs : s2.v = s.v := by rw [u2, t2]
  have key := tExtIter_refines (s := s2) (L := L) alT hint n h2 (by rw [hvs]; exact c.view) u4
    (by rw [hvs]; exact c.thin) (by rw [hvs]; exact c.alive) c.align (by rw [hvs]; exact c.esz)
    (by rw [hvs]; exact c.cap) hsz
  rw [hvs, u3, t3] at key
  obtain ⟨r1, L', r2, r3, r4, r5⟩ := key
  rw [r4, r1, (St.tick_quiet r5).1]
  exact ⟨trivial, ⟨r2, rfl, r3⟩, rfl, rfl, rfl, rfl⟩

theorem tRoundtrip_refines (c : TScope fl alT s loc locB L) (h16 : L.length ≤ rtCap) :
    RefTV alT s (match tRoundtrip s with | none => (.na, s) | some r => liftB r)
      ((⟨s.v.cap, L, s.v.h.esz, alT, 8, 8⟩ : TV Nat).from_ .other 0 L) := by
  have h1 := c.cap
  have h2 := c.view.len_le
  rcases hr : tRoundtrip s with _ | r
  · unfold tRoundtrip at hr
    rw [if_neg (by rw [c.view.1]; omega)] at hr
    dsimp only at hr
    split at hr
    · cases hr
    · split at hr <;> cases hr
  · obtain ⟨e1, p⟩ := (tRoundtrip_res c.own c.thin c.alive r hr).2 c.quiet L c.view
    simp only [liftB, e1, TV.from_, TV.params, c.withCapacity (n := L.length) (by omega)]
    exact ⟨trivial, p, rfl, rfl, rfl, rfl⟩

theorem RefTV.finish {r : Ret × St} {q : Outcome Nat × TV Nat} (h : RefTV alT s r q) :
    retMatch r.1 q.1 ∧ ∃ L', LocalVec r.2.v L' ∧ HdrKeep s.v.h r.2.v.h ∧
      q.2 = ⟨r.2.v.cap, L', s.v.h.esz, alT, 8, 8⟩ := by
  obtain ⟨o, c, xs, a1, a2, a3, a4⟩ := q
  obtain ⟨e1, e2, e3, e4⟩ := h.par
  simp only at e1 e2 e3 e4
  subst e1 e2 e3 e4
  exact ⟨h.ret, xs, h.post.view, h.post.hdr, by rw [h.post.cap]⟩

theorem tStep_refines {s loc locB} {L : List Nat} (alT : Nat) (op : Op) (vop : Vecs.Op Nat)
    (h : OwnL fl s loc locB) (hv : LocalVec s.v L) (hb : s.mem.budget = none)
    (ht : s.v.h.thin = true) (hal : s.v.h.alive = true) (ha : AlignOk alT) (hsm : Small s op)
    (hmap : toTVOp s op = some vop) :
    retMatch (tStep op s).1 ((⟨s.v.cap, L, s.v.h.esz, alT, 8, 8⟩ : TV Nat).step vop).1 ∧
    ∃ L', LocalVec (tStep op s).2.v L' ∧ HdrKeep s.v.h (tStep op s).2.v.h ∧
      ((⟨s.v.cap, L, s.v.h.esz, alT, 8, 8⟩ : TV Nat).step vop).2 =
        ⟨(tStep op s).2.v.cap, L', s.v.h.esz, alT, 8, 8⟩ := by
  obtain ⟨hc, hsz, he⟩ := hsm
  have c : TScope fl alT s loc locB L := ⟨h, hv, hb, ht, hal, ha, he, hc⟩
  refine RefTV.finish ?_
  cases op <;> simp only [toTVOp, Option.some.injEq, reduceCtorEq, Op.size, hv.1] at hmap hsz
  case resize n =>
    have := tResize_refines c n hsz
    split at hmap
    · rename_i h1
      cases hmap
      rwa [if_pos h1] at this
    · rename_i h1
      cases hmap
      rwa [if_neg h1] at this
  case extWithin a b =>
    have := tExtWithin_refines c a b hsz
    split at hmap
    · rename_i h1
      cases hmap
      rwa [if_pos h1] at this
    · rename_i h1
      cases hmap
      rwa [if_neg h1] at this
  case roundtrip =>
    split at hmap
    · rename_i h16
      simp only [Option.some.injEq] at hmap
      subst hmap
      rw [absL_of_view hv]
      exact tRoundtrip_refines c h16
    · cases hmap
  all_goals subst hmap
  case push => exact tPush_refines c
  case pop => exact tPop_refines c
  case insert i => exact tInsert_refines c i
  case remove i => exact tRemove_refines c i
  case swapRemove i => exact tSwapRemove_refines c i
  case truncate n => exact tTruncate_refines c n
  case clear => exact tClear_refines c
  case extSlice n => exact tExtSlice_refines c n hsz
  case extIter hint n => exact tExtend_refines c hint n hsz
  case append n => exact tAppend_refines c n hsz
  case splitOff a => exact tSplitOff_refines c a
  case drain a b sc f => exact tDrain_refines c a b sc f
  case reserve n => exact tReserve_refines c n hsz
  case shrinkFit => exact tShrinkFit_refines c

end HipVerif.Slots
