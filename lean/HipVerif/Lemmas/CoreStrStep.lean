/-
The `HipStr` API layer (`Str.strStep`: the checks the code performs, then the byte-level
operation) over the Core state machine: invariant, UTF-8 well-formedness WITHOUT assuming the
boundary side conditions (the layer's own checks establish them), rejected calls leave the state
unchanged, agreement with `String`/`str` on accepted calls, and the lift to histories.
-/
import HipVerif.Lemmas.CoreRun
import HipVerif.Lemmas.SpecValid

namespace HipVerif.Str
open HipVerif.Utf8 HipVerif.Core HipVerif.Spec.Std HipVerif.Spec.Range HipVerif.RangeTy

/-- Side condition of a `HipStr` call: the `OpOk` condition of the byte-level operation it ends
in (bound values are `usize`s and lengths are at most `isize::MAX` for `slice`/`try_slice`;
`OpOk s op` for a plain byte-level operation; nothing for the others, whose byte-level operation
has no side condition). -/
def StrOk (s : State) : StrOp → Prop
  | .byte op => OpOk s op
  | .trySlice h d sb eb => OpOk s (.trySlice h d sb eb)
  | .slice h d sb eb => OpOk s (.slice h d sb eb)
  | _ => True

def strRun (cfg : Cfg) (s : State) : List StrOp → State × List StrRet
  | [] => (s, [])
  | op :: ops =>
    let (s1, r) := strStep cfg s op
    let (s2, rs) := strRun cfg s1 ops
    (s2, r :: rs)

/-- along a history every call is one a Rust program can make (`StrOk`) with arguments of the
right Rust type (`StrArgsOk`), in the state in which it is made -/
def AllStrOk (cfg : Cfg) (s : State) : List StrOp → Prop
  | [] => True
  | op :: ops => (StrOk s op ∧ StrArgsOk s op) ∧ AllStrOk cfg (strStep cfg s op).1 ops

theorem valid_core_step {cfg : Cfg} {s : State} (op : Op) (w : Wf cfg s) (hok : OpOk s op)
    (hv : AllValid (Core.abs s)) (hs : StrSafe s.srcs (Core.abs s) op) :
    AllValid (Core.abs (Core.step cfg s op).1) := by
  have h := spec_valid_step cfg.icap s.srcs (Core.abs s) op (retFlag (Core.step cfg s op).2.ret) hv hs
  rw [refines cfg s op w hok] at h
  exact h

/-- a saturated index is above any length a value can have -/
theorem simplify_stdGet {cfg : Cfg} {s : State} {h d : Nat} {sb eb : Bound} {hd : Handle} (w : Wf cfg s)
    (hok : OpOk s (.trySlice h d sb eb)) (hg : getH s h = some hd) (a b : Nat) :
    Gen.Ranges.simplifyRangeMono sb eb (view s hd).length = .ok (a, b) ↔
      stdGet sb eb (view s hd).length = some (a, b) := by
  obtain ⟨hfs, hfe, hl⟩ := hok
  have hlen : (view s hd).length ≤ isizeMax := by rw [A.view_length (w.handles h hd hg)]; exact hl hd hg
  rcases A.simplify_cases sb eb _ hfs hfe hlen with ⟨a', b', h1, h2, _⟩ | ⟨a', b', k, h1, h2, _⟩
  · rw [h1, h2]; exact ⟨fun e => by cases e; rfl, fun e => by cases e; rfl⟩
  · rw [h1, h2]; exact ⟨nofun, nofun⟩

theorem simplify_cases {cfg : Cfg} {s : State} {h d : Nat} {sb eb : Bound} {hd : Handle} (w : Wf cfg s)
    (hok : OpOk s (.trySlice h d sb eb)) (hg : getH s h = some hd) :
    (∃ a b, stdGet sb eb (view s hd).length = some (a, b) ∧
      Gen.Ranges.simplifyRangeMono sb eb (view s hd).length = .ok (a, b)) ∨
    (∃ a b k, stdGet sb eb (view s hd).length = none ∧
      Gen.Ranges.simplifyRangeMono sb eb (view s hd).length = .err (a, b, k) ∧
      sliceErrOf sb eb (view s hd).length = .sliceErr a b k) := by
  obtain ⟨hfs, hfe, hl⟩ := hok
  have hlen : (view s hd).length ≤ isizeMax := by rw [A.view_length (w.handles h hd hg)]; exact hl hd hg
  rcases A.simplify_cases sb eb _ hfs hfe hlen with ⟨a, b, h1, h2, _⟩ | ⟨a, b, k, h1, h2, h3⟩
  · exact .inl ⟨a, b, h2, h1⟩
  · exact .inr ⟨a, b, k, h2, h1, h3⟩

variable {cfg : Cfg} {s : State}

theorem strStep_byte (op : Op) :
    strStep cfg s (.byte op) = ((Core.step cfg s op).1, .byte (Core.step cfg s op).2.ret) := rfl

theorem strStep_pushStr (h : Nat) (bs : List UInt8) :
    strStep cfg s (.pushStr h bs) =
      ((Core.step cfg s (.pushSlice h bs)).1, .byte (Core.step cfg s (.pushSlice h bs)).2.ret) := rfl

theorem strStep_pushChar (h c : Nat) :
    strStep cfg s (.pushChar h c) =
      ((Core.step cfg s (.pushSlice h (encode c))).1, .byte (Core.step cfg s (.pushSlice h (encode c))).2.ret) := rfl

theorem strStep_popChar (h : Nat) :
    strStep cfg s (.popChar h) =
      match getH s h with
      | some hd =>
        if (view s hd).length = 0 then (s, .char none)
        else if isBoundary (view s hd) (lastCharStart (view s hd)) then
          ((Core.step cfg s (.truncate h (lastCharStart (view s hd)))).1,
            .char (some ((view s hd).drop (lastCharStart (view s hd)))))
        else (s, .panic)
      | none => (s, .byte .badOp) := rfl

theorem strStep_truncate (h n : Nat) :
    strStep cfg s (.truncate h n) =
      match getH s h with
      | some hd =>
        if n ≤ (view s hd).length then
          if isBoundary (view s hd) n then
            ((Core.step cfg s (.truncate h n)).1, .byte (Core.step cfg s (.truncate h n)).2.ret)
          else (s, .panic)
        else (s, .byte .unit)
      | none => (s, .byte .badOp) := rfl

theorem strStep_trySlice (h d : Nat) (sb eb : Bound) :
    strStep cfg s (.trySlice h d sb eb) =
      match getH s h with
      | some hd =>
        match Gen.Ranges.simplifyRangeMono sb eb (view s hd).length with
        | .ok (a, b) =>
          if !isBoundary (view s hd) a then (s, .sliceErr (.startNotBoundary a b))
          else if !isBoundary (view s hd) b then (s, .sliceErr (.endNotBoundary a b))
          else ((Core.step cfg s (.trySlice h d sb eb)).1, .byte (Core.step cfg s (.trySlice h d sb eb)).2.ret)
        | .err (a, b, k) => (s, .sliceErr (.range a b k))
        | _ => (s, .panic)
      | none => (s, .byte .badOp) := rfl

theorem strStep_slice (h d : Nat) (sb eb : Bound) :
    strStep cfg s (.slice h d sb eb) =
      match getH s h with
      | some hd =>
        match Gen.Ranges.simplifyRangeMono sb eb (view s hd).length with
        | .ok (a, b) =>
          if isBoundary (view s hd) a && isBoundary (view s hd) b then
            ((Core.step cfg s (.slice h d sb eb)).1, .byte (Core.step cfg s (.slice h d sb eb)).2.ret)
          else (s, .panic)
        | _ => (s, .panic)
      | none => (s, .byte .badOp) := rfl

theorem strStep_fromUtf8 (d : Nat) (bs : List UInt8) :
    strStep cfg s (.fromUtf8 d bs) =
      if valid bs then ((Core.step cfg s (.fromSlice d bs)).1, .byte (Core.step cfg s (.fromSlice d bs)).2.ret)
      else (s, .utf8Err (validUpTo bs)) := rfl

theorem strSafe_truncate {h n : Nat} {hd : Handle} (hg : getH s h = some hd)
    (hb : isBoundary (view s hd) n = true) : StrSafe s.srcs (Core.abs s) (.truncate h n) := by
  intro v hv _
  rw [sget_abs_of_getH hg] at hv; cases hv
  exact hb

theorem strSafe_slice {h d : Nat} {sb eb : Bound} {hd : Handle} {a b : Nat} (w : Wf cfg s)
    (hok : OpOk s (.trySlice h d sb eb)) (hg : getH s h = some hd)
    (hsim : Gen.Ranges.simplifyRangeMono sb eb (view s hd).length = .ok (a, b))
    (ha : isBoundary (view s hd) a = true) (hb : isBoundary (view s hd) b = true) :
    StrSafe s.srcs (Core.abs s) (.trySlice h d sb eb) := by
  intro v hv a' b' hst
  rw [sget_abs_of_getH hg] at hv; cases hv
  rw [(simplify_stdGet w hok hg a b).mp hsim] at hst; cases hst
  exact ⟨ha, hb⟩

/-- Every `HipStr` call is a guard followed by one byte-level step: either the layer answers
by itself and leaves the state alone, or the state is that of a byte-level operation which is
`OpOk` when the call is `StrOk` and `StrSafe` by the layer's own checks, and the answer is the
operation's (or the popped `char`). -/
theorem strStep_lowers (cfg : Cfg) (s : State) (sop : StrOp) :
    (strStep cfg s sop).1 = s ∨ ∃ op, (strStep cfg s sop).1 = (Core.step cfg s op).1 ∧
      ((∃ r, (strStep cfg s sop).2 = .byte r) ∨ ∃ c, (strStep cfg s sop).2 = .char c) ∧
      (StrOk s sop → OpOk s op) ∧
      (Wf cfg s → StrOk s sop → StrArgsOk s sop → StrSafe s.srcs (Core.abs s) op) := by
  cases sop with
  | byte op => exact Or.inr ⟨op, rfl, Or.inl ⟨_, rfl⟩, id, fun _ _ ha => ha⟩
  | pushStr h bs => exact Or.inr ⟨.pushSlice h bs, rfl, Or.inl ⟨_, rfl⟩, fun _ => trivial, fun _ _ ha => ha⟩
  | pushChar h c =>
    exact Or.inr ⟨.pushSlice h (encode c), rfl, Or.inl ⟨_, rfl⟩, fun _ => trivial, fun _ _ ha => valid_encode ha⟩
  | popChar h =>
    rw [strStep_popChar]
    cases hg : getH s h with
    | none => exact Or.inl rfl
    | some hd =>
      simp only
      split
      · exact Or.inl rfl
      · split
        · rename_i hb
          exact Or.inr ⟨.truncate h _, rfl, Or.inr ⟨_, rfl⟩, fun _ => trivial, fun _ _ _ => strSafe_truncate hg hb⟩
        · exact Or.inl rfl
  | truncate h n =>
    rw [strStep_truncate]
    cases hg : getH s h with
    | none => exact Or.inl rfl
    | some hd =>
      simp only
      split
      · split
        · rename_i hb
          exact Or.inr ⟨.truncate h n, rfl, Or.inl ⟨_, rfl⟩, fun _ => trivial, fun _ _ _ => strSafe_truncate hg hb⟩
        · exact Or.inl rfl
      · exact Or.inl rfl
  | trySlice h d sb eb =>
    rw [strStep_trySlice]
    cases hg : getH s h with
    | none => exact Or.inl rfl
    | some hd =>
      simp only
      split
      · rename_i a b hsim
        split
        · exact Or.inl rfl
        · rename_i ha
          split
          · exact Or.inl rfl
          · rename_i hb
            exact Or.inr ⟨.trySlice h d sb eb, rfl, Or.inl ⟨_, rfl⟩, id, fun w hok _ =>
              strSafe_slice w hok hg hsim (by simpa using ha) (by simpa using hb)⟩
      · exact Or.inl rfl
      · exact Or.inl rfl
  | slice h d sb eb =>
    rw [strStep_slice]
    cases hg : getH s h with
    | none => exact Or.inl rfl
    | some hd =>
      simp only
      split
      · rename_i a b hsim
        split
        · rename_i hab
          rw [Bool.and_eq_true] at hab
          exact Or.inr ⟨.slice h d sb eb, rfl, Or.inl ⟨_, rfl⟩, id, fun w hok _ =>
            strSafe_slice (d := d) w hok hg hsim hab.1 hab.2⟩
        · exact Or.inl rfl
      · exact Or.inl rfl
  | fromUtf8 d bs =>
    rw [strStep_fromUtf8]
    split
    · rename_i hvb
      exact Or.inr ⟨.fromSlice d bs, rfl, Or.inl ⟨_, rfl⟩, fun _ => trivial, fun _ _ _ => hvb⟩
    · exact Or.inl rfl

/-- Every `HipStr` call preserves the representation invariant: it is either a
byte-level step or leaves the state alone. -/
theorem strStep_wf (sop : StrOp) (w : Wf cfg s) : Wf cfg (strStep cfg s sop).1 := by
  rcases strStep_lowers cfg s sop with h | ⟨op, h, _⟩ <;> rw [h]
  · exact w
  · exact wf_step cfg s op w

/-- Every `HipStr` call keeps every value well-formed UTF-8, assuming only what Rust's
types give (`StrArgsOk`: `&str` arguments are valid, `char`s are scalar values) and that the call
can be made at all (`StrOk`).  No boundary hypothesis: for `push(char)`, `pop`, `truncate`,
`try_slice`, `slice`, `from_utf8` the checks performed by the layer itself establish what the
byte-level operation needs. -/
theorem strStep_valid (sop : StrOp) (w : Wf cfg s) (hok : StrOk s sop)
    (hv : AllValid (Core.abs s)) (ha : StrArgsOk s sop) : AllValid (Core.abs (strStep cfg s sop).1) := by
  rcases strStep_lowers cfg s sop with h | ⟨op, h, _, ok, safe⟩ <;> rw [h]
  · exact hv
  · exact valid_core_step op w (ok hok) hv (safe w hok ha)

/-- A `HipStr` call that is rejected by the layer — a panic (`truncate`/`slice` off a char
boundary or out of range), a `try_slice` error, a `from_utf8` error — leaves the whole state
(every value, every reference count, every buffer) exactly as it was. -/
theorem strStep_reject_unchanged (cfg : Cfg) (s : State) (sop : StrOp)
    (hr : (strStep cfg s sop).2 = .panic ∨ (∃ e, (strStep cfg s sop).2 = .sliceErr e) ∨
      (∃ n, (strStep cfg s sop).2 = .utf8Err n)) : (strStep cfg s sop).1 = s := by
  rcases strStep_lowers cfg s sop with h | ⟨_, _, ⟨r, h⟩ | ⟨c, h⟩, _⟩
  · exact h
  · rw [h] at hr; rcases hr with h' | ⟨_, h'⟩ | ⟨_, h'⟩ <;> cases h'
  · rw [h] at hr; rcases hr with h' | ⟨_, h'⟩ | ⟨_, h'⟩ <;> cases h'

/-! ## agreement with `String` / `str` on accepted calls -/

theorem core_step_set (op : Op) (w : Wf cfg s) (hok : OpOk s op) {k : Nat} {x : List UInt8} {r : Ret}
    (hstd : Spec.Std.step cfg.icap s.srcs (Core.abs s) op (retFlag (Core.step cfg s op).2.ret) =
      ((Core.abs s).set k (some x), r)) (hr : ∀ n, r ≠ .nat n) (hk : k < (Core.abs s).length) :
    StrRet.byte (Core.step cfg s op).2.ret = .byte r ∧
    Core.abs (Core.step cfg s op).1 = (Core.abs s).set k (some x) ∧
    sget (Core.abs (Core.step cfg s op).1) k = some x := by
  rw [refines cfg s op w hok, Prod.mk.injEq] at hstd
  refine ⟨congrArg StrRet.byte (eraseRet_eq hstd.2 hr), hstd.1, ?_⟩
  rw [hstd.1]; exact sget_set_same _ _ _ hk

/-- `HipStr::truncate(n)` with `n ≤ len` on a char boundary behaves like
`String::truncate`: it returns normally and the value becomes its first `n` bytes. -/
theorem strStep_truncate_spec (w : Wf cfg s) {h n : Nat} {v : List UInt8}
    (hg : sget (Core.abs s) h = some v) (hn : n ≤ v.length) (hb : isBoundary v n = true) :
    (strStep cfg s (.truncate h n)).2 = .byte .unit ∧
    Core.abs (strStep cfg s (.truncate h n)).1 = (Core.abs s).set h (some (v.take n)) ∧
    sget (Core.abs (strStep cfg s (.truncate h n)).1) h = some (v.take n) := by
  obtain ⟨hd, hgh, hview⟩ := sget_abs_some hg
  rw [strStep_truncate, hgh]
  simp only [hview, hn, hb, if_true]
  exact core_step_set (.truncate h n) w trivial (by simp only [Spec.Std.step, hg])
    (fun _ => Ret.noConfusion) (sget_some_lt hg)

theorem strStep_truncate_noop {h n : Nat} {v : List UInt8}
    (hg : sget (Core.abs s) h = some v) (hn : v.length < n) :
    strStep cfg s (.truncate h n) = (s, .byte .unit) := by
  obtain ⟨hd, hgh, hview⟩ := sget_abs_some hg
  rw [strStep_truncate, hgh]
  have : ¬ n ≤ v.length := by omega
  simp only [hview, this, if_false]

/-- On a well-formed value `pop` never panics: the boundary
re-check inside the `truncate` it calls always succeeds (`lastCharStart` is a boundary). -/
theorem strStep_popChar_no_panic {h : Nat} (hv : AllValid (Core.abs s)) :
    (strStep cfg s (.popChar h)).2 ≠ .panic := by
  rw [strStep_popChar]
  cases hgh : getH s h with
  | none => exact StrRet.noConfusion
  | some hd =>
    have hval := hv h _ (sget_abs_of_getH hgh)
    simp only
    split
    · exact StrRet.noConfusion
    · rename_i hne
      have hne' : view s hd ≠ [] := by intro e; rw [e] at hne; exact hne rfl
      rw [if_pos (lastCharStart_spec hval hne').1]
      exact StrRet.noConfusion

/-- On a non-empty well-formed value, `HipStr::pop` returns exactly the encoding of
the last scalar value (`v.drop (lastCharStart v) = encode c` for a scalar `c`) and leaves the
value without it, like `String::pop`. -/
theorem strStep_popChar_spec (w : Wf cfg s) {h : Nat} {v : List UInt8}
    (hg : sget (Core.abs s) h = some v) (hval : valid v = true) (hne : v ≠ []) :
    (strStep cfg s (.popChar h)).2 = .char (some (v.drop (lastCharStart v))) ∧
    (∃ c, isScalar c = true ∧ v.drop (lastCharStart v) = encode c) ∧
    Core.abs (strStep cfg s (.popChar h)).1 = (Core.abs s).set h (some (v.take (lastCharStart v))) ∧
    sget (Core.abs (strStep cfg s (.popChar h)).1) h = some (v.take (lastCharStart v)) := by
  obtain ⟨hd, hgh, hview⟩ := sget_abs_some hg
  obtain ⟨hb, _, _, hc⟩ := lastCharStart_spec hval hne
  have hl : ¬ v.length = 0 := by intro e; exact hne (List.eq_nil_of_length_eq_zero e)
  rw [strStep_popChar, hgh]
  simp only [hview, hl, hb, if_false, if_true]
  exact ⟨trivial, hc, (core_step_set (r := .unit) (.truncate h (lastCharStart v)) w trivial
    (by simp only [Spec.Std.step, hg]) (fun _ => Ret.noConfusion) (sget_some_lt hg)).2⟩

theorem strStep_popChar_empty {h : Nat} (hg : sget (Core.abs s) h = some []) :
    strStep cfg s (.popChar h) = (s, .char none) := by
  obtain ⟨hd, hgh, hview⟩ := sget_abs_some hg
  rw [strStep_popChar, hgh]
  simp only [hview, List.length_nil, if_true]

/-- `HipStr::push(c)` appends exactly `encode c` (`char::encode_utf8`). -/
theorem strStep_pushChar_spec (w : Wf cfg s) {h c : Nat} {v : List UInt8}
    (hg : sget (Core.abs s) h = some v) :
    (strStep cfg s (.pushChar h c)).2 = .byte .unit ∧
    Core.abs (strStep cfg s (.pushChar h c)).1 = (Core.abs s).set h (some (v ++ encode c)) ∧
    sget (Core.abs (strStep cfg s (.pushChar h c)).1) h = some (v ++ encode c) := by
  rw [strStep_pushChar]
  exact core_step_set (.pushSlice h (encode c)) w trivial (by simp only [Spec.Std.step, hg])
    (fun _ => Ret.noConfusion) (sget_some_lt hg)

/-- `HipStr::push_str(t)` appends exactly the bytes of `t`. -/
theorem strStep_pushStr_spec (w : Wf cfg s) {h : Nat} {bs v : List UInt8}
    (hg : sget (Core.abs s) h = some v) :
    (strStep cfg s (.pushStr h bs)).2 = .byte .unit ∧
    Core.abs (strStep cfg s (.pushStr h bs)).1 = (Core.abs s).set h (some (v ++ bs)) ∧
    sget (Core.abs (strStep cfg s (.pushStr h bs)).1) h = some (v ++ bs) := by
  rw [strStep_pushStr]
  exact core_step_set (.pushSlice h bs) w trivial (by simp only [Spec.Std.step, hg])
    (fun _ => Ret.noConfusion) (sget_some_lt hg)

/-- `try_slice`, complete case analysis (slot `d` free): with `stdGet` the range std's
`get` accepts, `try_slice` answers `StartNotACharBoundary` / `EndNotACharBoundary` when that range is
not on boundaries (in this order), the range error std's bound checks name when there is no such
range, and otherwise `Ok` with slot `d` holding exactly `v[a..b]`; errors leave the state alone. -/
theorem strStep_trySlice_spec (w : Wf cfg s) {h d : Nat} {sb eb : Bound} {v : List UInt8}
    (hok : StrOk s (.trySlice h d sb eb)) (hg : sget (Core.abs s) h = some v) (hf : slotFree s d = true) :
    match stdGet sb eb v.length with
    | some (a, b) =>
      if isBoundary v a = false then strStep cfg s (.trySlice h d sb eb) = (s, .sliceErr (.startNotBoundary a b))
      else if isBoundary v b = false then
        strStep cfg s (.trySlice h d sb eb) = (s, .sliceErr (.endNotBoundary a b))
      else
        (strStep cfg s (.trySlice h d sb eb)).2 = .byte (.bool true) ∧
        Core.abs (strStep cfg s (.trySlice h d sb eb)).1 = (Core.abs s).set d (some ((v.drop a).take (b - a))) ∧
        sget (Core.abs (strStep cfg s (.trySlice h d sb eb)).1) d = some ((v.drop a).take (b - a))
    | none =>
      ∃ a b k, Spec.Std.sliceErrOf sb eb v.length = .sliceErr a b k ∧
        strStep cfg s (.trySlice h d sb eb) = (s, .sliceErr (.range a b k)) := by
  obtain ⟨hd, hgh, rfl⟩ := sget_abs_some hg
  rw [strStep_trySlice, hgh]
  rcases simplify_cases (d := d) w hok hgh with ⟨a, b, hst, hsim⟩ | ⟨a, b, k, hst, hsim, herr⟩ <;>
    simp only [hst, hsim]
  · by_cases ha : isBoundary (view s hd) a = false
    · simp only [ha, Bool.not_false, if_true]
    · by_cases hb : isBoundary (view s hd) b = false
      · simp only [Bool.not_eq_false] at ha
        simp only [ha, hb, Bool.not_true, Bool.not_false, Bool.false_eq_true, Bool.true_eq_false, if_false, if_true]
      · simp only [Bool.not_eq_false] at ha hb
        simp only [ha, hb, Bool.not_true, Bool.false_eq_true, Bool.true_eq_false, if_false]
        exact core_step_set (.trySlice h d sb eb) w hok
          (by simp only [Spec.Std.step, hg, sfree_abs, hf, if_true, hst])
          (fun _ => Ret.noConfusion) (slotFree_lt hf)
  · exact ⟨a, b, k, herr, rfl⟩

/-- `try_slice` is accepted iff std accepts the range and both ends are char boundaries. -/
theorem strStep_trySlice_accepted_iff (w : Wf cfg s) {h d : Nat} {sb eb : Bound} {v : List UInt8}
    (hok : StrOk s (.trySlice h d sb eb)) (hg : sget (Core.abs s) h = some v) (hf : slotFree s d = true) :
    (strStep cfg s (.trySlice h d sb eb)).2 = .byte (.bool true) ↔
      ∃ a b, stdGet sb eb v.length = some (a, b) ∧ isBoundary v a = true ∧ isBoundary v b = true := by
  have hspec := strStep_trySlice_spec (cfg := cfg) w hok hg hf
  constructor
  · intro hacc
    split at hspec
    · rename_i a b hst
      split at hspec
      · rw [hspec] at hacc; cases hacc
      · split at hspec
        · rw [hspec] at hacc; cases hacc
        · rename_i ha hb
          exact ⟨a, b, hst, by simpa using ha, by simpa using hb⟩
    · obtain ⟨_, _, _, _, he⟩ := hspec
      rw [he] at hacc; cases hacc
  · rintro ⟨a, b, hst, ha, hb⟩
    rw [hst] at hspec
    simp only [ha, hb, Bool.true_eq_false, if_false] at hspec
    exact hspec.1

/-- `slice`, complete case analysis (slot `d` free): `slice` returns `v[a..b]` in slot `d`
exactly when std's indexing accepts the range and both ends are char boundaries, and panics —
leaving the state alone — otherwise (like `&s[a..b]`). -/
theorem strStep_slice_spec (w : Wf cfg s) {h d : Nat} {sb eb : Bound} {v : List UInt8}
    (hok : StrOk s (.slice h d sb eb)) (hg : sget (Core.abs s) h = some v) (hf : slotFree s d = true) :
    match stdGet sb eb v.length with
    | some (a, b) =>
      if isBoundary v a = true ∧ isBoundary v b = true then
        (strStep cfg s (.slice h d sb eb)).2 = .byte .unit ∧
        Core.abs (strStep cfg s (.slice h d sb eb)).1 = (Core.abs s).set d (some ((v.drop a).take (b - a))) ∧
        sget (Core.abs (strStep cfg s (.slice h d sb eb)).1) d = some ((v.drop a).take (b - a))
      else strStep cfg s (.slice h d sb eb) = (s, .panic)
    | none => strStep cfg s (.slice h d sb eb) = (s, .panic) := by
  obtain ⟨hd, hgh, rfl⟩ := sget_abs_some hg
  rw [strStep_slice, hgh]
  rcases simplify_cases (d := d) w hok hgh with ⟨a, b, hst, hsim⟩ | ⟨a, b, k, hst, hsim, _⟩ <;>
    simp only [hst, hsim]
  by_cases hab : isBoundary (view s hd) a = true ∧ isBoundary (view s hd) b = true
  · simp only [hab, and_self, Bool.and_self, if_true]
    exact core_step_set (.slice h d sb eb) w hok
      (by simp only [Spec.Std.step, hg, sfree_abs, hf, if_true, hst])
      (fun _ => Ret.noConfusion) (slotFree_lt hf)
  · rw [if_neg hab, if_neg (by rwa [Bool.and_eq_true])]

/-- `from_utf8`: ill-formed bytes are rejected with `valid_up_to` = the length of the
longest well-formed prefix, and nothing changes; well-formed bytes are accepted and (slot `d`
free) the new value is exactly those bytes. -/
theorem strStep_fromUtf8_spec (w : Wf cfg s) (d : Nat) (bs : List UInt8) :
    (valid bs = false → strStep cfg s (.fromUtf8 d bs) = (s, .utf8Err (validUpTo bs))) ∧
    (valid bs = true → slotFree s d = true →
      (strStep cfg s (.fromUtf8 d bs)).2 = .byte .unit ∧
      Core.abs (strStep cfg s (.fromUtf8 d bs)).1 = (Core.abs s).set d (some bs) ∧
      sget (Core.abs (strStep cfg s (.fromUtf8 d bs)).1) d = some bs) := by
  rw [strStep_fromUtf8]
  constructor
  · intro hv; simp only [hv, Bool.false_eq_true, if_false]
  · intro hv hf
    simp only [hv, if_true]
    exact core_step_set (.fromSlice d bs) w trivial
      (by simp only [Spec.Std.step, sfree_abs, hf, if_true]) (fun _ => Ret.noConfusion)
      (slotFree_lt hf)

/-- `from_utf8` accepted ⇔ the bytes are well-formed UTF-8 (an accepted call answers with a
byte-level result, a rejected one with `Utf8Error { valid_up_to }`). -/
theorem strStep_fromUtf8_accepted_iff (d : Nat) (bs : List UInt8) :
    (∃ r, (strStep cfg s (.fromUtf8 d bs)).2 = .byte r) ↔ valid bs = true := by
  rw [strStep_fromUtf8]
  cases hv : valid bs with
  | true => simp
  | false =>
    simp only [Bool.false_eq_true, if_false]
    constructor
    · rintro ⟨_, h'⟩; cases h'
    · intro h'; cases h'

/-! ## histories -/

theorem strRun_nil (cfg : Cfg) (s : State) : strRun cfg s [] = (s, []) := rfl

theorem strRun_cons (cfg : Cfg) (s : State) (op : StrOp) (ops : List StrOp) :
    strRun cfg s (op :: ops) =
      ((strRun cfg (strStep cfg s op).1 ops).1, (strStep cfg s op).2 :: (strRun cfg (strStep cfg s op).1 ops).2) := rfl

theorem strRun_wf (cfg : Cfg) (ops : List StrOp) : ∀ s, Wf cfg s → Wf cfg (strRun cfg s ops).1 := by
  induction ops with
  | nil => intro s w; exact w
  | cons op ops ih => intro s w; rw [strRun_cons]; exact ih _ (strStep_wf op w)

/-- Through ANY history of `HipStr` calls a Rust program can make (bounds are `usize`s,
`&str`/`char` arguments are what their types say) every value stays well-formed UTF-8 — the only
hypotheses are about argument TYPES, never about char boundaries. -/
theorem strRun_valid (cfg : Cfg) (ops : List StrOp) :
    ∀ s, Wf cfg s → AllStrOk cfg s ops → AllValid (Core.abs s) → AllValid (Core.abs (strRun cfg s ops).1) := by
  induction ops with
  | nil => intro s _ _ hv; exact hv
  | cons op ops ih =>
    intro s w hok hv
    rw [strRun_cons]
    exact ih _ (strStep_wf op w) hok.2 (strStep_valid op w hok.1.1 hv hok.1.2)

theorem allValid_init (srcs : List (List UInt8)) (n : Nat) : AllValid (Core.abs (Core.init srcs n)) := by
  intro h v hg
  obtain ⟨hd, hgh, _⟩ := sget_abs_some hg
  have : getH (Core.init srcs n) h = none := by
    simp only [getH, Core.init]
    by_cases hl : h < n
    · simp [hl]
    · have : (List.replicate n (none : Option Handle))[h]? = none :=
        List.getElem?_eq_none (by simpa using Nat.le_of_not_lt hl)
      simp [this]
  rw [this] at hgh; cases hgh

/-- Every state reachable from the empty pool by `HipStr` calls
satisfies the invariant and holds only well-formed UTF-8. -/
theorem strRun_init_valid (cfg : Cfg) (srcs : List (List UInt8)) (n : Nat) (ops : List StrOp)
    (hok : AllStrOk cfg (Core.init srcs n) ops) :
    Wf cfg (strRun cfg (Core.init srcs n) ops).1 ∧ AllValid (Core.abs (strRun cfg (Core.init srcs n) ops).1) :=
  ⟨strRun_wf cfg ops _ (wf_init cfg srcs n),
    strRun_valid cfg ops _ (wf_init cfg srcs n) hok (allValid_init srcs n)⟩

end HipVerif.Str
