/-
The slot-level ThinVec, fault-free: bridge between the capacity arithmetic of the two models
(`layout_bridge`, `setCapacity_bridge`, `reserve_bridge`, `afterReserve_bridge`,
`withCapacity_bridge`), bounds on the capacity after `reserve`, and the state after `reserve`.
-/
import HipVerif.Lemmas.SlotsRefineIV
namespace HipVerif.Slots
variable {fl : Bool}
open HipVerif.Vecs (IV TV Outcome Val Reason PanicClass DrainEnd Src TVParams)
open HipVerif.Spec.Vec (Bnd Side)

/-- type parameters of the list-level ThinVec that a slot-level ThinVec with element size `esz`
stands for: 8-byte, 8-aligned prefix (`Reserved` or the tracked prefix of the harness) -/
def tvParams (esz alT : Nat) : TVParams := ⟨esz, alT, 8, 8⟩

/-- element alignments the slot model's fixed header layout (24 bytes, align 8) is right for -/
def AlignOk (alT : Nat) : Prop := alT = 1 ∨ alT = 2 ∨ alT = 4 ∨ alT = 8

/-- bound under which none of the list model's capacity-overflow checks can fire -/
def smallBound : Nat := 2 ^ 40

theorem roundUp24 {alT : Nat} (h : AlignOk alT) : Vecs.roundUp 24 alT = 24 := by
  rcases h with rfl | rfl | rfl | rfl <;> decide

theorem layout_bridge {esz alT n : Nat} (hpos : 0 < esz) (ha : AlignOk alT)
    (he : esz ≤ 1024) (hn : n ≤ 16 * smallBound) :
    Vecs.layout (tvParams esz alT) n = some (⟨laySize esz n, 8⟩, 24, roundCap esz n) := by
  have hmul : esz * n ≤ 1024 * (16 * smallBound) := Nat.mul_le_mul he hn
  have ha8 : alT ≤ 8 := by rcases ha with rfl | rfl | rfl | rfl <;> omega
  have hmax : max 8 alT = 8 := by omega
  unfold Vecs.layout
  simp only [tvParams, Vecs.dataOffset, Vecs.hdrSize, Vecs.hdrAlign, Nat.max_self]
  have h24 : Vecs.roundUp (Vecs.roundUp 8 8 + 16) 8 = 24 := by decide
  rw [h24, roundUp24 ha, hmax]
  have c1 : ¬ esz * n > Vecs.isizeMax + 1 - alT := by
    simp only [Vecs.isizeMax, smallBound] at hmul ⊢; omega
  have c2 : ¬ 24 + esz * n > Vecs.isizeMax + 1 - 8 := by
    simp only [Vecs.isizeMax, smallBound] at hmul ⊢; omega
  simp only [c1, c2, if_false, show ¬ esz = 0 by omega]
  have : Vecs.roundUp (24 + esz * n) 8 = laySize esz n := by
    simp only [Vecs.roundUp, laySize, hdr, Nat.mul_comm esz n]
    rfl
  rw [this]
  simp only [roundCap, laySize, hdr, show ¬ esz = 0 by omega, if_false]

theorem Vec.setCapacity_cap (n : Nat) (v : Vec) :
    (v.setCapacity n).cap =
      if laySize v.h.esz v.cap = laySize v.h.esz n then v.cap else roundCap v.h.esz n := by
  unfold Vec.setCapacity
  split
  · rfl
  · simp only [Vec.cap, List.length_take, List.length_append, uninits, List.length_replicate]
    omega

theorem setCapacity_bridge {cap esz alT n : Nat} (xs : List Nat) (hpos : 0 < esz)
    (ha : AlignOk alT) (he : esz ≤ 1024) (hc : cap ≤ 16 * smallBound) (hn : n ≤ 16 * smallBound) :
    TV.setCapacity (⟨cap, xs, esz, alT, 8, 8⟩ : TV Nat) n =
      (.ok .unit, ⟨if laySize esz cap = laySize esz n then cap else roundCap esz n,
        xs, esz, alT, 8, 8⟩) := by
  unfold TV.setCapacity
  have h1 := layout_bridge (n := cap) hpos ha he hc
  have h2 := layout_bridge (n := n) hpos ha he hn
  simp only [TV.params, tvParams] at h1 h2 ⊢
  rw [h1, h2]
  simp only [Vecs.Layout.mk.injEq, and_true]
  split <;> rfl

theorem Vec.reserve_cap (add : Nat) (v : Vec) :
    (v.reserve add).cap = if add > v.cap - v.len then
      (v.setCapacity (max (v.len + add) (v.cap * 2))).cap else v.cap := by
  unfold Vec.reserve; split <;> rfl

theorem reserve_bridge {v : Vec} {alT add : Nat} (xs : List Nat) (hlen : v.len = xs.length)
    (hpos : 0 < v.h.esz) (ha : AlignOk alT) (he : v.h.esz ≤ 1024) (hc : v.cap ≤ 8 * smallBound)
    (hadd : v.len + add ≤ 16 * smallBound) :
    TV.reserve (⟨v.cap, xs, v.h.esz, alT, 8, 8⟩ : TV Nat) add =
      (.ok .unit, ⟨(v.reserve add).cap, xs, v.h.esz, alT, 8, 8⟩) := by
  unfold TV.reserve
  rw [Vec.reserve_cap]
  simp only [← hlen]
  by_cases h : add > v.cap - v.len
  · rw [if_pos h, if_pos h]
    have hsum : v.len + add ≤ Vecs.usizeMax := by
      simp only [Vecs.usizeMax, smallBound] at hc hadd ⊢; omega
    simp only [Vecs.checkedAdd, hsum, if_true]
    rw [setCapacity_bridge xs hpos ha he (by simp only [smallBound] at hc ⊢; omega)
      (by simp only [smallBound] at hc hadd ⊢; omega), Vec.setCapacity_cap]
  · rw [if_neg h, if_neg h]

theorem reserve_facts {s loc locB} {L : List Nat} (add : Nat) (h : OwnL fl s loc locB)
    (hv : LocalVec s.v L) (ht : s.v.h.thin = true) (hal : s.v.h.alive = true) :
    LocalVec (s.reserve add).v L ∧ (s.reserve add).v.cap = (s.v.reserve add).cap ∧
      (s.reserve add).v.h = s.v.h ∧ L.length + add ≤ (s.reserve add).v.cap ∧
      (s.reserve add).mem = s.mem := by
  obtain ⟨_, g2, g3, g4, g5⟩ := h.reserve add ht hal
  exact ⟨hv.reserve add, rfl, g3, by rw [← hv.1]; exact g4, g5⟩

theorem Vec.setCapacity_h (n : Nat) (v : Vec) : (v.setCapacity n).h = v.h := by
  unfold Vec.setCapacity; split <;> rfl

theorem Vec.reserve_h (n : Nat) (v : Vec) : (v.reserve n).h = v.h := by
  unfold Vec.reserve; split
  · exact Vec.setCapacity_h _ v
  · rfl

theorem Post.afterReserve {s s1 s' : St} {L' : List Nat} {add : Nat}
    (p : Post (s1.reserve add) s' L') (hv : s1.v = s.v) : PostT s s' L' (s.v.reserve add).cap :=
  ⟨p.view, by rw [p.cap, ← hv]; rfl, HdrKeep.of_eq (by rw [p.hdr, ← hv]; exact Vec.reserve_h add s1.v)⟩

theorem afterReserve_bridge {v : Vec} {alT add : Nat} (xs : List Nat)
    (f : TV Nat → Outcome Nat × TV Nat) (hlen : v.len = xs.length)
    (hpos : 0 < v.h.esz) (ha : AlignOk alT) (he : v.h.esz ≤ 1024) (hc : v.cap ≤ 8 * smallBound)
    (hadd : v.len + add ≤ 16 * smallBound) :
    TV.afterReserve (⟨v.cap, xs, v.h.esz, alT, 8, 8⟩ : TV Nat) add f =
      f ⟨(v.reserve add).cap, xs, v.h.esz, alT, 8, 8⟩ := by
  unfold TV.afterReserve
  rw [reserve_bridge xs hlen hpos ha he hc hadd]

theorem withCapacity_bridge {esz alT n : Nat} (hpos : 0 < esz) (ha : AlignOk alT)
    (he : esz ≤ 1024) (hn : n ≤ smallBound) :
    (TV.withCapacity (tvParams esz alT) n : Option (TV Nat)) =
      some ⟨roundCap esz (max n (minCap esz)), [], esz, alT, 8, 8⟩ := by
  unfold TV.withCapacity
  have hmin : Vecs.minimalCapacity esz = minCap esz := by
    simp only [Vecs.minimalCapacity, minCap, show ¬ esz = 0 by omega, if_false]
  have hmc : minCap esz ≤ 32 := by
    simp only [minCap, show ¬ esz = 0 by omega, if_false]
    split
    · omega
    · split
      · omega
      · exact Nat.div_le_self 32 esz
  have hl := layout_bridge (n := max n (minCap esz)) hpos ha he
    (by simp only [smallBound] at hn ⊢; omega)
  simp only [tvParams] at hl ⊢
  rw [hmin, hl]

theorem roundCap_le {esz : Nat} (hpos : 0 < esz) (n : Nat) : roundCap esz n ≤ n + 7 := by
  unfold roundCap
  rw [if_neg (by omega)]
  simp only [hdr]
  have h1 : (24 + n * esz + 7) / 8 * 8 - 24 ≤ n * esz + 7 := by omega
  calc ((24 + n * esz + 7) / 8 * 8 - 24) / esz ≤ (n * esz + 7) / esz := Nat.div_le_div_right h1
    _ ≤ (n * esz + 7 * esz) / esz := Nat.div_le_div_right (by
        have : 7 ≤ 7 * esz := Nat.le_mul_of_pos_right 7 hpos
        omega)
    _ = n + 7 := by rw [← Nat.add_mul, Nat.mul_div_cancel _ hpos]

theorem reserve_one_cap_le {v : Vec} (hpos : 0 < v.h.esz) (hle : v.len ≤ v.cap) :
    (v.reserve 1).cap ≤ max v.cap (2 * v.len + 8) := by
  rw [Vec.reserve_cap]
  split
  · rename_i h
    have hc : v.cap = v.len := by omega
    rw [Vec.setCapacity_cap]
    split
    · omega
    · have := roundCap_le hpos (max (v.len + 1) (v.cap * 2))
      omega
  · omega

theorem reserve_cap_le {v : Vec} (add : Nat) (hpos : 0 < v.h.esz) :
    (v.reserve add).cap ≤ max v.cap (max (v.len + add) (v.cap * 2) + 7) := by
  rw [Vec.reserve_cap]
  split
  · rw [Vec.setCapacity_cap]
    split
    · omega
    · have := roundCap_le hpos (max (v.len + add) (v.cap * 2)); omega
  · omega

end HipVerif.Slots
