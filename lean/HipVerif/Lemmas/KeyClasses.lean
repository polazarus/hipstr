/-
Comparing two tables class by class.

A fact of the form "every entry of `as` has a partner in `bs`" costs the kernel `|as| · |bs|`
evaluations of the matching predicate. When partners have equal numeric keys it is enough to
compare, for each residue `i` modulo `m`, the entries of `as` with key `≡ i` against those of
`bs` with key `≡ i`: `m · (|as| + |bs|)` key tests and about `|as| · |bs| / m` matches.
Soundness needs nothing of the keys, and any modulus `m > 0` is sound; they only decide whether
the class-wise Bool evaluates to true and how large the classes are. The users take an odd `m`
(5, 9, 13: powers of two spread ASCII keys badly) near the minimum of that sum for their two tables.
-/

namespace HipVerif.Classes

variable {m i : Nat} {k : α → Nat} {l : List α}

/-- The elements of `l` whose key is `i` modulo `m`. (`Nat.beq` and not `==`: the kernel computes
    it in one step, while `==` on `Nat` goes through `Nat.decEq`.) -/
def cls (m i : Nat) (k : α → Nat) (l : List α) : List α := l.filter fun x => Nat.beq (k x % m) i

theorem mem_cls {x : α} : x ∈ cls m i k l ↔ x ∈ l ∧ k x % m = i := by
  simp [cls]

theorem all_of_classes (hm : 0 < m) (k : α → Nat) {P : Nat → α → Bool}
    (h : ((List.range m).all fun i => (cls m i k l).all (P i)) = true) :
    ∀ a ∈ l, P (k a % m) a = true := fun a ha =>
  List.all_eq_true.mp (List.all_eq_true.mp h _ (List.mem_range.mpr (Nat.mod_lt _ hm))) a
    (mem_cls.mpr ⟨ha, rfl⟩)

theorem filter_cls {p : α → Bool} (hp : ∀ x ∈ l, p x = true → k x % m = i) :
    (cls m i k l).filter p = l.filter p := by
  rw [cls, List.filter_filter]
  refine List.filter_congr fun x hx => ?_
  cases hpx : p x with
  | false => rfl
  | true => simp [hp x hx hpx]

/-- Class-wise form of `as.all fun a => bs.any (R a)`: within every class modulo `m` (keys `ka`,
    `kb`) each `a` has a partner. -/
def allAny (m : Nat) (ka : α → Nat) (kb : β → Nat) (R : α → β → Bool) (as : List α)
    (bs : List β) : Bool :=
  (List.range m).all fun i => (cls m i ka as).all fun a => (cls m i kb bs).any (R a)

theorem allAny_sound (hm : 0 < m) {ka : α → Nat} {kb : β → Nat} {R : α → β → Bool}
    {as : List α} {bs : List β} (h : allAny m ka kb R as bs = true) :
    ∀ a ∈ as, bs.any (R a) = true := fun a ha =>
  have ⟨b, hb, hab⟩ := List.any_eq_true.mp (all_of_classes hm ka h a ha)
  List.any_eq_true.mpr ⟨b, (mem_cls.mp hb).1, hab⟩

variable {kf : φ → Nat} {need : φ → Bool} {fns : List φ} {cov : List (Nat × γ)}

/-- Class-wise form of "the keyed list `cov` has an entry for every needed element of `fns`,
    names only elements of `fns`, and has no key twice". -/
def keysMatch (m : Nat) (kf : φ → Nat) (need : φ → Bool) (fns : List φ) (cov : List (Nat × γ)) :
    Bool :=
  allAny m kf (·.1) (fun f e => e.1 == kf f) (fns.filter need) cov &&
  (List.range m).all fun i => (cls m i (·.1) cov).all fun e =>
    ((cls m i kf fns).any fun f => kf f == e.1) &&
      ((cls m i (·.1) cov).filter (·.1 == e.1)).length == 1

/-- What `keysMatch` establishes, in the shapes the coverage maps are read in: the lookup of a
    needed element succeeds, and the listing of entries that name no element or share their key
    is empty. -/
theorem keysMatch_sound (hm : 0 < m) (h : keysMatch m kf need fns cov = true) :
    (∀ f ∈ fns, need f = true → ∃ c, (cov.find? (·.1 == kf f)).map (·.2) = some c) ∧
    (cov.filter fun e =>
      !(fns.any fun f => kf f == e.1) || (cov.filter (·.1 == e.1)).length != 1).map (·.1) = [] := by
  rw [keysMatch, Bool.and_eq_true] at h
  refine ⟨fun f hf hn => ?_,
    List.map_eq_nil_iff.mpr (List.filter_eq_nil_iff.mpr fun e he => ?_)⟩
  · obtain ⟨e, he⟩ := Option.isSome_iff_exists.mp (List.find?_isSome.mpr
      (List.any_eq_true.mp (allAny_sound hm h.1 f (List.mem_filter.mpr ⟨hf, hn⟩))))
    exact ⟨e.2, by rw [he]; rfl⟩
  · have := all_of_classes hm _ h.2 e he
    rw [Bool.and_eq_true, filter_cls fun x _ hx => by rw [eq_of_beq hx], beq_iff_eq] at this
    obtain ⟨f, hf, hfe⟩ := List.any_eq_true.mp this.1
    rw [List.any_eq_true.mpr ⟨f, (mem_cls.mp hf).1, hfe⟩, this.2]
    decide

theorem failing_eq_nil {p q : α → Bool} {g : α → β} (h : ∀ x ∈ l, p x = true) :
    (l.filter fun x => q x && !p x).map g = [] :=
  List.map_eq_nil_iff.mpr (List.filter_eq_nil_iff.mpr fun x hx => by simp [h x hx])

end HipVerif.Classes
