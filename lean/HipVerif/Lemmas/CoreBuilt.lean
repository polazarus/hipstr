/-
`Built cfg s s1 r v`: a representation `r` reading `v`, built over the well-formed `s` without
touching the pool (state `s1`), not yet installed.  Every operation of `step` builds one —
from nothing, from a handle it reads, or from the handle it took out of its slot (`built_moved`)
— transforms it (`make_unique`, a write, a drop, a reallocation) and closes by installing the
result in a free slot (`Built.stepOk`) or by putting it back (`Built.stepOk_put`).
-/
import HipVerif.Lemmas.CoreAbs

namespace HipVerif.Core.A
open HipVerif.Spec.Std

theorem view_repr (s : State) {hd hd' : Handle} (h : hd.repr = hd'.repr) : view s hd = view s hd' := by
  unfold view; rw [h]

theorem handleOk_repr (cfg : Cfg) (s : State) {hd hd' : Handle} (h : hd.repr = hd'.repr) :
    HandleOk cfg s hd ↔ HandleOk cfg s hd' := by
  unfold HandleOk; rw [h]

theorem isNormalized_repr (cfg : Cfg) {hd hd' : Handle} (h : hd.repr = hd'.repr) :
    isNormalized cfg hd = isNormalized cfg hd' := by
  unfold isNormalized isInline isBorrowed hlen; rw [h]

theorem window_sub (l : List UInt8) (off len a b : Nat) (hb : b ≤ len) :
    (((l.drop off).take len).drop a).take (b - a) = (l.drop (off + a)).take (b - a) := by
  rw [List.drop_take, List.take_take, List.drop_drop]
  congr 1
  omega

theorem splice_length {α : Type} (l w' : List α) (off len : Nat) (hr : off + len ≤ l.length)
    (hw : w'.length = len) : (l.take off ++ w' ++ l.drop (off + len)).length = l.length := by
  simp only [List.length_append, List.length_take, List.length_drop]
  omega

theorem splice_window {α : Type} (l w' : List α) (off len : Nat) (hr : off + len ≤ l.length)
    (hw : w'.length = len) : ((l.take off ++ w' ++ l.drop (off + len)).drop off).take len = w' := by
  have h1 : (l.take off).length = off := by simp; omega
  rw [List.append_assoc, List.drop_append, h1]
  simp only [Nat.sub_self, List.drop_zero]
  have : (l.take off).drop off = [] := by simp
  rw [this, List.nil_append, List.take_append, hw]
  simp [← hw]

theorem push_window (l bs : List UInt8) (off len : Nat) (hr : off + len ≤ l.length) :
    ((l.take (off + len) ++ bs).drop off).take (len + bs.length) = (l.drop off).take len ++ bs := by
  have h1 : (l.take (off + len)).length = off + len := by simp; omega
  rw [List.drop_append_of_le_length (by omega), List.drop_take]
  have h2 : off + len - off = len := by omega
  rw [h2]
  apply List.take_of_length_le
  simp only [List.length_append, List.length_take, List.length_drop]
  omega

/-- what `install` needs of the state `s1` and the representation `r` built over it: a heap
descriptor's owner is held locally and the descriptor is valid; anything else is a valid
non-heap representation -/
def BuiltWf (cfg : Cfg) (s1 : State) : Rep → Prop
  | .heap o b off len => WfX cfg s1 [o] ∧ ∃ x, getI s1 o = some x ∧ b = x.buf ∧ off + len ≤ x.data.length
  | .inline bs => WfX cfg s1 [] ∧ bs.length ≤ cfg.icap
  | .borrowed src off len => WfX cfg s1 [] ∧ off + len ≤ (s1.srcs[src]?.getD []).length

structure Built (cfg : Cfg) (s s1 : State) (r : Rep) (v : List UInt8) : Prop where
  pool : s1.pool = s.pool
  srcs : s1.srcs = s.srcs
  views : ∀ k hd, getH s k = some hd → view s1 hd = view s hd
  -- `view` does not look at the taint (`view_repr`): `false` stands for any
  view_new : view s1 ⟨r, false⟩ = v
  wf : BuiltWf cfg s1 r

variable {cfg : Cfg} {s s1 : State} {r : Rep} {v : List UInt8}

theorem Built.getH_eq (b : Built cfg s s1 r v) (k : Nat) : getH s1 k = getH s k := by
  unfold getH; rw [b.pool]

theorem Built.wfx_owner (b : Built cfg s s1 r v) (t : Bool) : WfX cfg s1 (ownersOf (some ⟨r, t⟩) ++ []) := by
  have := b.wf
  cases r <;> exact this.1

theorem Built.rebase (b : Built cfg { s with nextBuf := n } s1 r v) : Built cfg s s1 r v :=
  ⟨b.pool, b.srcs, b.views, b.view_new, b.wf⟩

theorem Built.wf_state {cfg : Cfg} {s s1 : State} {bs : List UInt8} {v : List UInt8}
    (b : Built cfg s s1 (.inline bs) v) : Wf cfg s1 :=
  (wf_iff_wfx cfg s1).mpr b.wf.1

theorem Built.abs_eq (b : Built cfg s s1 r v) : abs s1 = abs s := abs_congr b.pool b.views

theorem Built.handleOk (b : Built cfg s s1 r v) (t : Bool) : HandleOk cfg s1 ⟨r, t⟩ := by
  have hw := b.wf
  unfold HandleOk
  cases r with
  | inline bs => exact hw.2
  | borrowed a b c => exact hw.2
  | heap o pb off len =>
    obtain ⟨w1, x, hx, hb, hr⟩ := hw
    exact ⟨x, hx, w1.held_head hx, hb, hr⟩

theorem Built.view_eq (b : Built cfg s s1 r v) (t : Bool) : view s1 ⟨r, t⟩ = v :=
  (view_repr s1 rfl).trans b.view_new

theorem Built.length {cfg : Cfg} {s s1 : State} {r : Rep} {v : List UInt8} (b : Built cfg s s1 r v) (t : Bool) :
    v.length = hlen ⟨r, t⟩ := by
  rw [← b.view_eq t]
  exact view_length (b.handleOk t)

theorem Built.handleOk_old (b : Built cfg s s1 r v) {k : Nat} {hd : Handle} (hg : getH s k = some hd) :
    HandleOk cfg s1 hd :=
  (b.wfx_owner false).handles k hd (by rw [b.getH_eq]; exact hg)

/-! ### closing: install in a free slot, or put back into the slot the handle was taken from -/

theorem Built.installed (b : Built cfg s s1 r v)
    {d : Nat} (hfree : slotFree s d = true) (t : Bool) (ret : Ret) (ev : List Event) :
    Wf cfg (install s1 d r t ret ev).1 ∧ abs (install s1 d r t ret ev).1 = (abs s).set d (some v) := by
  obtain ⟨hl, hnone⟩ := slotFree_iff.mp hfree
  constructor
  · exact (wf_iff_wfx ..).mpr
      (wfx_put (b.wfx_owner t) (by rw [b.getH_eq]; exact hnone) (by rw [b.pool]; exact hl) (b.handleOk t))
  · unfold install ok
    simp only [abs_setH, Option.map_some]
    rw [b.abs_eq, b.view_eq t]

theorem Built.stepOk (b : Built cfg s s1 r v) {d : Nat} (hfree : slotFree s d = true) {t : Bool}
    (hn : NormOk cfg s → t = false → isNormalized cfg ⟨r, t⟩ = true) (ret : Ret) (ev : List Event) :
    StepOk cfg s (install s1 d r t ret ev) ((abs s).set d (some v), eraseRet ret) :=
  have h := b.installed hfree t ret ev
  ⟨h.1, fun hno => normOk_install hno b.pool d r t ret ev (hn hno), h.2, rfl⟩

theorem Built.stepOk_put {h : Nat} {hd : Handle} (b : Built cfg (setH s h none) (setH s1 h none) r v)
    (hg : getH s h = some hd) {t : Bool} (hn : NormOk cfg s → t = false → isNormalized cfg ⟨r, t⟩ = true)
    (ret : Ret) (ev : List Event) :
    StepOk cfg s (ok (setH s1 h (some ⟨r, t⟩)) ret ev) ((abs s).set h (some v), eraseRet ret) := by
  have hl := getH_some_lt hg
  have hf : slotFree (setH s h none) h = true :=
    slotFree_iff.mpr ⟨by simpa using hl, getH_setH_same _ _ _ hl⟩
  obtain ⟨h1, h2⟩ := b.installed hf t ret ev
  unfold install at h1 h2
  rw [setH_setH] at h1 h2
  refine ⟨h1, fun hno => normOk_put hno b.pool _ (fun _ hv ht => by cases hv; exact hn hno ht), ?_, rfl⟩
  rw [h2, abs_setH, List.set_set]

/-! ### building from nothing, or from a handle that is read -/

theorem built_inline (w : Wf cfg s) (bs : List UInt8) (h : bs.length ≤ cfg.icap) :
    Built cfg s s (.inline bs) bs :=
  { pool := rfl, srcs := rfl, views := fun _ _ _ => rfl, view_new := rfl,
    wf := ⟨(wf_iff_wfx cfg s).mp w, h⟩ }

theorem built_borrowed (w : Wf cfg s) (src off len : Nat)
    (h : off + len ≤ (s.srcs[src]?.getD []).length) :
    Built cfg s s (.borrowed src off len) (((s.srcs[src]?.getD []).drop off).take len) :=
  { pool := rfl, srcs := rfl, views := fun _ _ _ => rfl, view_new := rfl,
    wf := ⟨(wf_iff_wfx cfg s).mp w, h⟩ }

theorem built_newHeap (w : Wf cfg s) (data : List UInt8) (cap : Nat)
    (hc : data.length ≤ cap) : Built cfg s (newHeap s data cap).1 (newHeap s data cap).2.1 data :=
  { pool := rfl, srcs := rfl, views := fun k hd hg => view_newHeap_old _ _ (w.handles k hd hg),
    view_new := view_newHeap_new s data cap false,
    wf := ⟨wfx_newHeap ((wf_iff_wfx cfg s).mp w) data cap hc, _, getI_newHeap_new s data cap, rfl, by simp⟩ }

theorem built_incr (w : Wf cfg s) {o : Nat} {x : Inner}
    (hx : getI s o = some x) (hlive : x.live = true) (hi : incr cfg s o = (s1, true))
    (pb off len : Nat) (hb : pb = x.buf) (hr : off + len ≤ x.data.length) :
    Built cfg s s1 (.heap o pb off len) ((x.data.drop off).take len) := by
  have w1 := wfx_incr ((wf_iff_wfx cfg s).mp w) (by intro y hy; rw [hx] at hy; cases hy; exact hlive) hi
  have hv := fun hd => view_incr hi hd
  obtain ⟨_, x', hx', _, rfl⟩ := incr_true hi
  rw [hx] at hx'; cases hx'
  have hnew := getI_setI_same s o { x with count := x.count + 1 } (getI_some_lt hx)
  exact { pool := rfl, srcs := rfl, views := fun k hd _ => hv hd, view_new := by rw [view_heap_eq rfl hnew],
          wf := ⟨w1, _, hnew, hb, hr⟩ }

theorem fromSliceRepr_eq (cfg : Cfg) (s : State) (bs : List UInt8) :
    fromSliceRepr cfg s bs = if bs.length ≤ cfg.icap then (s, .inline bs, []) else newHeap s bs bs.length := by
  unfold fromSliceRepr
  split
  · rename_i h0
    rw [List.eq_nil_of_length_eq_zero h0]; rfl
  · rfl

theorem built_fromSlice (w : Wf cfg s) (bs : List UInt8) :
    Built cfg s (fromSliceRepr cfg s bs).1 (fromSliceRepr cfg s bs).2.1 bs := by
  rw [fromSliceRepr_eq]
  split
  · rename_i h1; exact built_inline w bs h1
  · exact built_newHeap w bs bs.length (Nat.le_refl _)

/-- the tail shared by `clone` and `range_unchecked` on a heap value: one more share of the owner
for the window `off', len'`, or a private copy of it when the count cannot move -/
theorem built_shareOrCopy (w : Wf cfg s) {o : Nat} {x : Inner} (hx : getI s o = some x) (hlive : x.live = true)
    (pb off' len' : Nat) (hb : pb = x.buf) (hr : off' + len' ≤ x.data.length) {data : List UInt8}
    (hd : data = (x.data.drop off').take len') {c : Nat} (hc : data.length ≤ c) :
    Built cfg s
      (if (incr cfg s o).2 = true then ((incr cfg s o).1, Rep.heap o pb off' len', ([] : List Event))
        else newHeap s data c).1
      (if (incr cfg s o).2 = true then ((incr cfg s o).1, Rep.heap o pb off' len', ([] : List Event))
        else newHeap s data c).2.1 data := by
  rcases hi : incr cfg s o with ⟨s1, done⟩
  cases done with
  | true => rw [if_pos rfl, hd]; exact built_incr w hx hlive hi pb off' len' hb hr
  | false => rw [if_neg (by simp)]; exact built_newHeap w data c hc

theorem built_clone (w : Wf cfg s) {hd : Handle} (hok : HandleOk cfg s hd) :
    Built cfg s (cloneRepr cfg s hd).1 (cloneRepr cfg s hd).2.1 (view s hd) := by
  unfold cloneRepr
  cases hr : hd.repr with
  | inline bs => rw [view_inline_eq hr]; exact built_inline w bs ((handleOk_inline hr).mp hok)
  | borrowed a b c => rw [view_borrowed_eq hr]; exact built_borrowed w a b c ((handleOk_borrowed hr).mp hok)
  | heap o pb off len =>
    obtain ⟨x, hx, hlive, hb, hrng⟩ := (handleOk_heap hr).mp hok
    exact built_shareOrCopy w hx hlive pb off len hb hrng (view_heap_eq hr hx) (Nat.le_refl _)

theorem built_range (w : Wf cfg s) {hd : Handle} (hok : HandleOk cfg s hd)
    {a b : Nat} (hab : a ≤ b) (hb : b ≤ hlen hd) :
    Built cfg s (rangeRepr cfg s hd a b).1 (rangeRepr cfg s hd a b).2.1 (((view s hd).drop a).take (b - a)) := by
  have hvl := view_length hok
  unfold rangeRepr
  unfold hlen at hb
  cases hr : hd.repr with
  | inline bs =>
    rw [view_inline_eq hr]
    exact built_inline w _ (by have := (handleOk_inline hr).mp hok; simp; omega)
  | borrowed src off len =>
    rw [hr] at hb
    simp only at hb
    rw [view_borrowed_eq hr, window_sub _ _ _ _ _ hb]
    exact built_borrowed w src (off + a) (b - a) (by have := (handleOk_borrowed hr).mp hok; omega)
  | heap o pb off len =>
    rw [hr] at hb
    simp only at hb
    obtain ⟨x, hx, hlive, hpb, hrng⟩ := (handleOk_heap hr).mp hok
    simp only
    split
    · exact built_inline w _ (by simp; omega)
    · exact built_shareOrCopy w hx hlive pb (off + a) (b - a) hpb (by omega)
        (by rw [view_heap_eq hr hx, window_sub _ _ _ _ _ hb]) (by simp; exact Nat.min_le_left _ _)

/-- `normalized_from_vec` on a Vec whose buffer no live inner uses -/
theorem built_fromVec (w : Wf cfg s) (bs : List UInt8) (cap buf : Nat) (hc : bs.length ≤ cap)
    (hb : buf < s.nextBuf) (hfree : ∀ j y, getI s j = some y → y.live = true → y.buf ≠ buf) :
    Built cfg s (fromVecRepr cfg s bs cap buf).1 (fromVecRepr cfg s bs cap buf).2.1 bs := by
  unfold fromVecRepr
  split
  · rename_i hi; exact built_inline w bs hi
  · show Built cfg s (boxVec s bs cap buf).1 (.heap s.inners.length buf 0 bs.length) bs
    have hnew : getI (boxVec s bs cap buf).1 s.inners.length = some ⟨0, bs, cap, buf, true⟩ := getI_append_same s _
    exact { pool := rfl, srcs := rfl, views := fun k hd hg => view_boxVec_old _ _ _ (w.handles k hd hg),
            view_new := by rw [view_heap_eq rfl hnew]; simp,
            wf := ⟨wfx_boxVec ((wf_iff_wfx cfg s).mp w) bs cap buf hc hb hfree, _, hnew, rfl, by simp⟩ }

/-! ### building from the handle of slot `h`, taken out of the pool -/

theorem built_moved (w : Wf cfg s) {h : Nat} {hd : Handle} (hg : getH s h = some hd) :
    Built cfg (setH s h none) (setH s h none) hd.repr (view s hd) := by
  have wt := wfx_take ((wf_iff_wfx cfg s).mp w) hg
  have hok := w.handles h hd hg
  refine { pool := rfl, srcs := rfl, views := fun _ _ _ => rfl, view_new := ?_, wf := ?_ }
  · rw [view_setH]; exact view_repr s rfl
  · cases hr : hd.repr with
    | inline bs => rw [ownersOf_of_not_heap (by unfold isHeap; rw [hr])] at wt; exact ⟨wt, (handleOk_inline hr).mp hok⟩
    | borrowed a b c =>
      rw [ownersOf_of_not_heap (by unfold isHeap; rw [hr])] at wt; exact ⟨wt, (handleOk_borrowed hr).mp hok⟩
    | heap o pb off len =>
      rw [ownersOf_heap hr] at wt
      obtain ⟨x, hx, _, hb, hrng⟩ := (handleOk_heap hr).mp hok
      exact ⟨wt, x, hx, hb, hrng⟩

theorem wf_moved (w : Wf cfg s) {h : Nat} {hd : Handle} (hg : getH s h = some hd) (hnh : isHeap hd = false) :
    Wf cfg (setH s h none) :=
  (wf_iff_wfx cfg _).mpr (by have := wfx_take ((wf_iff_wfx cfg s).mp w) hg; rwa [ownersOf_of_not_heap hnh] at this)

theorem slotFree_moved {h d : Nat} {hd : Handle} (hg : getH s h = some hd) (hf : slotFree s d = true) :
    slotFree (setH s h none) d = true := by
  obtain ⟨hl, hnone⟩ := slotFree_iff.mp hf
  have hne : h ≠ d := by intro he; subst he; rw [hg] at hnone; cases hnone
  exact slotFree_iff.mpr ⟨by simpa using hl, by rw [getH_setH_other _ _ _ _ hne]; exact hnone⟩

/-! ### transforming a built representation -/

theorem Built.bump (b : Built cfg s s1 r v) {n : Nat} (hn : s1.nextBuf ≤ n) :
    Built cfg s { s1 with nextBuf := n } r v := by
  refine ⟨b.pool, b.srcs, fun k hd hg => (view_congr rfl (fun _ => rfl)).trans (b.views k hd hg),
    (view_congr rfl (fun _ => rfl)).trans b.view_new, ?_⟩
  have := b.wf
  cases r with
  | inline bs => exact ⟨wfx_bump_to this.1 hn, this.2⟩
  | borrowed a b c => exact ⟨wfx_bump_to this.1 hn, this.2⟩
  | heap o pb off len => exact ⟨wfx_bump_to this.1 hn, this.2⟩

theorem Built.dropped (b : Built cfg s s1 r v) (bs : List UInt8) (hbs : bs.length ≤ cfg.icap) :
    Built cfg s (dropRepr cfg s1 r).1 (.inline bs) bs := by
  have hw := b.wf
  refine { pool := (dropRepr_pool ..).trans b.pool, srcs := (dropRepr_srcs ..).trans b.srcs,
           views := fun k hd hg => (view_dropRepr ..).trans (b.views k hd hg), view_new := rfl, wf := ⟨?_, hbs⟩ }
  cases r with
  | inline _ => exact hw.1
  | borrowed a b c => exact hw.1
  | heap o pb off len => exact wfx_release hw.1

/-- a fresh exact Vec holding `data`, boxed; then the old representation is dropped
(`make_unique`, `shrink_to`, the reallocating `push_slice`) -/
theorem Built.reheap (b : Built cfg s s1 r v) (data : List UInt8) (c : Nat) (hc : data.length ≤ c) :
    Built cfg s (dropRepr cfg (newHeap s1 data c).1 r).1 (newHeap s1 data c).2.1 data := by
  have w1 := wfx_newHeap (b.wfx_owner false) data c hc
  refine { pool := (dropRepr_pool ..).trans b.pool, srcs := (dropRepr_srcs ..).trans b.srcs,
           views := fun k hd hg => ?_, view_new := (view_dropRepr ..).trans (view_newHeap_new s1 data c false),
           wf := ?_ }
  · rw [view_dropRepr, view_newHeap_old _ _ (b.handleOk_old hg)]; exact b.views k hd hg
  · have hw := b.wf
    cases r with
    | inline _ => exact ⟨w1, _, getI_newHeap_new s1 data c, rfl, by simp⟩
    | borrowed _ _ _ => exact ⟨w1, _, getI_newHeap_new s1 data c, rfl, by simp⟩
    | heap o pb off len =>
      obtain ⟨_, x, hx, _⟩ := hw
      have hne : o ≠ s1.inners.length := by have := getI_some_lt hx; omega
      exact ⟨wfx_release (wfx_perm (.swap ..) w1), _, (release_getI_other _ _ o _ hne).trans (getI_newHeap_new s1 data c),
        rfl, by simp⟩

theorem Built.rewrite {o pb off len : Nat} (b : Built cfg s s1 (.heap o pb off len) v) {x : Inner}
    (hx : getI s1 o = some x) (hc : x.count = 0) (data' : List UInt8) (cap' buf' off' len' : Nat)
    (hdc : data'.length ≤ cap') (hb : buf' < s1.nextBuf)
    (hfresh : ∀ j y, j ≠ o → getI s1 j = some y → y.live = true → y.buf ≠ buf')
    (hrng : off' + len' ≤ data'.length) :
    Built cfg s (setI s1 o { x with data := data', cap := cap', buf := buf' }) (.heap o buf' off' len')
      ((data'.drop off').take len') := by
  have w1 := b.wf.1
  have hr0 := (wfx_sole w1 hx hc).1
  have hnew := getI_setI_same s1 o { x with data := data', cap := cap', buf := buf' } (getI_some_lt hx)
  exact { pool := b.pool, srcs := b.srcs,
          views := fun k hd hg =>
            (view_setI_noref (no_ref_of_refsTo_zero hr0 (by rw [b.getH_eq]; exact hg))).trans (b.views k hd hg),
          view_new := view_heap_eq rfl hnew,
          wf := ⟨wfx_setData w1 hx hc data' cap' buf' hdc hb hfresh, _, hnew, rfl, hrng⟩ }

theorem Built.rewrite_data {o pb off len : Nat} (b : Built cfg s s1 (.heap o pb off len) v) {x : Inner}
    (hx : getI s1 o = some x) (hc : x.count = 0) (data' : List UInt8) (off' len' : Nat)
    (hdc : data'.length ≤ x.cap) (hrng : off' + len' ≤ data'.length) :
    Built cfg s (setI s1 o { x with data := data' }) (.heap o x.buf off' len') ((data'.drop off').take len') :=
  have w1 := b.wf.1
  have hlive := w1.held_head hx
  b.rewrite hx hc data' x.cap x.buf off' len' hdc (w1.bufFresh o x hx)
    (fun j y hj hy hyl => w1.bufDistinct j o y x hy hx hj hyl hlive) hrng

def Owned (s1 : State) : Rep → Prop
  | .inline _ => True
  | .borrowed .. => False
  | .heap o _ _ _ => ∃ x, getI s1 o = some x ∧ x.count = 0

theorem built_makeUnique {s0 : State} {r0 : Rep} (b : Built cfg s s0 r0 v) (t : Bool) :
    Built cfg s (makeUnique cfg s0 ⟨r0, t⟩).1 (makeUnique cfg s0 ⟨r0, t⟩).2.1 v ∧
      Owned (makeUnique cfg s0 ⟨r0, t⟩).1 (makeUnique cfg s0 ⟨r0, t⟩).2.1 := by
  have hv := b.view_eq t
  cases r0 with
  | inline bs => exact ⟨b, trivial⟩
  | borrowed a b' c =>
    have hm : makeUnique cfg s0 ⟨.borrowed a b' c, t⟩ = fromSliceRepr cfg s0 v := by rw [← hv]; rfl
    rw [hm, fromSliceRepr_eq]
    split
    · exact ⟨b.dropped v ‹_›, trivial⟩
    · exact ⟨b.reheap v v.length (Nat.le_refl _), _, getI_newHeap_new s0 v v.length, rfl⟩
  | heap o pb off len =>
    obtain ⟨w0, x, hx, hpb, hrng⟩ := b.wf
    by_cases hu : ownerUnique cfg s0 o = true
    · have : makeUnique cfg s0 ⟨.heap o pb off len, t⟩ = (s0, .heap o pb off len, []) := by
        simp [makeUnique, hu]
      rw [this]
      exact ⟨b, x, hx, ownerUnique_count w0 hx (w0.held_head hx) hu⟩
    · have : makeUnique cfg s0 ⟨.heap o pb off len, t⟩ =
          ((dropRepr cfg (newHeap s0 v v.length).1 (.heap o pb off len)).1, (newHeap s0 v v.length).2.1,
            (newHeap s0 v v.length).2.2 ++ (dropRepr cfg (newHeap s0 v v.length).1 (.heap o pb off len)).2) := by
        simp [makeUnique, hu, hv, dropRepr]
      rw [this]
      have hne : o ≠ s0.inners.length := by have := getI_some_lt hx; omega
      exact ⟨b.reheap v v.length (Nat.le_refl _), _,
        (release_getI_other _ _ o _ hne).trans (getI_newHeap_new s0 v v.length), rfl⟩

theorem built_writeView (b : Built cfg s s1 r v)
    (ho : Owned s1 r) (f : List UInt8 → List UInt8) (hf : ∀ w, (f w).length = w.length) :
    Built cfg s (writeView s1 r f).1 (writeView s1 r f).2.1 (f v) := by
  cases r with
  | inline bs =>
    have hv : bs = v := b.view_new
    subst hv
    exact { pool := b.pool, srcs := b.srcs, views := b.views, view_new := rfl,
            wf := ⟨b.wf.1, by rw [hf]; exact b.wf.2⟩ }
  | borrowed a b' c => exact absurd ho (by simp [Owned])
  | heap o pb off len =>
    obtain ⟨w1, x, hx, hpb, hrng⟩ := b.wf
    obtain ⟨x', hx', hc⟩ := ho
    rw [hx] at hx'; cases hx'
    have hv : (x.data.drop off).take len = v := by rw [← b.view_new]; exact (view_heap_eq rfl hx).symm
    have hfl : (f ((x.data.drop off).take len)).length = len := by rw [hf]; simp; omega
    have hdl := splice_length x.data _ off len hrng hfl
    have : writeView s1 (.heap o pb off len) f =
        (setI s1 o { x with data := x.data.take off ++ f ((x.data.drop off).take len) ++ x.data.drop (off + len) },
          .heap o pb off len, if len > 0 then [Event.write x.buf off (off + len)] else []) := by
      simp [writeView, hx]
    have b' := b.rewrite_data hx hc _ off len (by rw [hdl]; exact w1.datacap o x hx (w1.held_head hx))
      (by rw [hdl]; exact hrng)
    have hw : ((x.data.take off ++ f ((x.data.drop off).take len) ++ x.data.drop (off + len)).drop off).take len
        = f v := by rw [splice_window x.data _ off len hrng hfl, hv]
    rw [this, hpb, ← hw]
    exact b'

/-! ### normalisation of the built representations -/

theorem norm_newHeap (cfg : Cfg) (s : State) (data : List UInt8) (cap : Nat) (t : Bool)
    (h : data.length > cfg.icap) : isNormalized cfg ⟨(newHeap s data cap).2.1, t⟩ = true := by
  rw [newHeap_rep, isNormalized_heap]; exact decide_eq_true h

theorem norm_fromSlice (cfg : Cfg) (s : State) (bs : List UInt8) (t : Bool) :
    isNormalized cfg ⟨(fromSliceRepr cfg s bs).2.1, t⟩ = true := by
  rw [fromSliceRepr_eq]
  split
  · rfl
  · exact norm_newHeap cfg s bs _ t (by omega)

theorem norm_fromVec (cfg : Cfg) (s0 : State) (bs : List UInt8) (cap b : Nat) (t : Bool) :
    isNormalized cfg ⟨(fromVecRepr cfg s0 bs cap b).2.1, t⟩ = true := by
  unfold fromVecRepr
  split
  · rfl
  · rw [isNormalized_heap]; exact decide_eq_true (by omega)

theorem norm_clone {hd : Handle} (hok : HandleOk cfg s hd) (t : Bool) :
    isNormalized cfg ⟨(cloneRepr cfg s hd).2.1, t⟩ = isNormalized cfg hd := by
  have hvl := view_length hok
  unfold cloneRepr
  cases hr : hd.repr with
  | inline bs => exact isNormalized_repr cfg hr.symm
  | borrowed a b c => exact isNormalized_repr cfg hr.symm
  | heap o pb off len =>
    simp only
    split
    · exact isNormalized_repr cfg hr.symm
    · rw [newHeap_rep, isNormalized_heap, hvl, hlen_heap hr, ← isNormalized_heap cfg o pb off len hd.tainted]
      exact isNormalized_repr cfg hr.symm

theorem norm_range {hd : Handle} (hok : HandleOk cfg s hd)
    {a b : Nat} (hb : b ≤ hlen hd) (t : Bool) :
    isNormalized cfg ⟨(rangeRepr cfg s hd a b).2.1, t⟩ = true := by
  have hvl := view_length hok
  unfold rangeRepr
  cases hr : hd.repr with
  | inline bs => rfl
  | borrowed src off len => rfl
  | heap o pb off len =>
    simp only
    split
    · rfl
    · split
      · rw [isNormalized_heap]; exact decide_eq_true (by omega)
      · refine norm_newHeap cfg _ _ _ _ ?_
        simp only [List.length_take, List.length_drop, hvl]
        omega

theorem norm_makeUnique {s0 : State} {r0 : Rep} (b : Built cfg s s0 r0 v)
    (t t' : Bool) (hn : isNormalized cfg ⟨r0, t⟩ = true) :
    isNormalized cfg ⟨(makeUnique cfg s0 ⟨r0, t⟩).2.1, t'⟩ = true := by
  have hvl : (view s0 ⟨r0, t⟩).length = hlen ⟨r0, t⟩ := view_length (b.handleOk t)
  unfold makeUnique
  cases r0 with
  | inline bs => rfl
  | borrowed a b' c => exact norm_fromSlice ..
  | heap o pb off len =>
    simp only
    split
    · exact hn
    · show isNormalized cfg ⟨(newHeap s0 (view s0 ⟨.heap o pb off len, t⟩) (view s0 ⟨.heap o pb off len, t⟩).length).2.1, t'⟩ = true
      refine norm_newHeap cfg _ _ _ _ ?_
      rw [hvl]
      exact of_decide_eq_true ((isNormalized_heap cfg o pb off len t).symm.trans hn)

theorem norm_writeView (cfg : Cfg) (s : State) (r : Rep) (f : List UInt8 → List UInt8) (t : Bool) :
    isNormalized cfg ⟨(writeView s r f).2.1, t⟩ = isNormalized cfg ⟨r, t⟩ := by
  unfold writeView
  cases r with
  | inline bs => rfl
  | borrowed a b c => rfl
  | heap o pb off len => simp only; split <;> rfl

end HipVerif.Core.A
