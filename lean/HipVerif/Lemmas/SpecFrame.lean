/-
Frame property of the std-side specification: an operation changes only the slots it writes.
Together with `refines` this gives handle independence (C02) for the representation model.
-/
import HipVerif.Lemmas.CoreStep

namespace HipVerif.Core
open HipVerif.Spec.Std

def writes : Op → List Nat
  | .new d | .fromSlice d _ | .fromVec d _ _ | .borrowed d _ _ _ | .withCapacity d _
  | .inline d _ | .tryInline d _ => [d]
  | .clone _ d | .slice _ d _ _ | .trySlice _ d _ _ | .trySliceRef _ d _ _ _ | .sliceRef _ d _ _ _
  | .adopt _ d _ _ | .toAsciiLower _ d | .toAsciiUpper _ d | .repeat _ d _ => [d]
  | .pushSlice h _ | .pop h | .truncate h _ | .clear h | .shrinkTo h _ | .shrinkToFit h
  | .asMutWrite h _ _ | .toMutWrite h _ _ | .makeAsciiLower h | .makeAsciiUpper h
  | .mutate h _ | .mutateLeak h _ | .intoVec h | .toVec h | .intoBorrowed h | .spareCapacity h
  | .drop h => [h]
  | .intoOwned h d => [h, d]

theorem sOnSlot_frame {p : SPool} {q : List UInt8 → SPool × Ret} (h k : Nat)
    (hq : ∀ v, sget (q v).1 k = sget p k) : sget (sOnSlot p h q).1 k = sget p k := by
  unfold sOnSlot
  cases sget p h with
  | none => rfl
  | some v => exact hq v

theorem spec_frame (icap : Nat) (srcs : List (List UInt8)) (p : SPool) (op : Op) (flag : Bool)
    (k : Nat) (hk : k ∉ writes op) :
    sget (Spec.Std.step icap srcs p op flag).1 k = sget p k := by
  -- every branch of the specification answers `p`, or `p` with slots of `writes op` set
  have key : ∀ (a : Nat) (q : SPool) (x : Option (List UInt8)), a ∈ writes op → sget (q.set a x) k = sget q k :=
    fun a q x ha => sget_set_other q a k x (fun e => hk (e ▸ ha))
  cases op with
  | new d | withCapacity d n | fromSlice d bs | fromVec d bs cap | borrowed d src off len =>
    simp only [spec_new, spec_withCapacity, spec_fromSlice, spec_fromVec, spec_borrowed]
    split
    · exact key _ _ _ (List.mem_cons_self ..)
    · rfl
  | inline d bs | tryInline d bs =>
    simp only [spec_inline, spec_tryInline]
    split
    · split
      · exact key _ _ _ (List.mem_cons_self ..)
      · rfl
    · rfl
  | clone h d | toAsciiLower h d | toAsciiUpper h d | adopt h d off len =>
    simp only [spec_clone, spec_toAsciiLower, spec_toAsciiUpper, spec_adopt]
    refine sOnSlot_frame h k fun v => ?_
    split
    · exact key _ _ _ (List.mem_cons_self ..)
    · rfl
  | slice h d sb eb | trySlice h d sb eb | trySliceRef h d relNeg rel plen | sliceRef h d relNeg rel plen =>
    simp only [spec_slice, spec_trySlice, spec_trySliceRef, spec_sliceRef]
    refine sOnSlot_frame h k fun v => ?_
    split
    · split
      · exact key _ _ _ (List.mem_cons_self ..)
      · rfl
    · rfl
  | «repeat» h d n =>
    simp only [spec_repeat]
    refine sOnSlot_frame h k fun v => ?_
    split
    · split
      · exact key _ _ _ (List.mem_cons_self ..)
      · split
        · exact key _ _ _ (List.mem_cons_self ..)
        · rfl
    · rfl
  | pushSlice h bs | truncate h n | clear h | toMutWrite h i b | makeAsciiLower h | makeAsciiUpper h
  | mutate h sc | mutateLeak h sc | toVec h | drop h =>
    simp only [spec_pushSlice, spec_truncate, spec_clear, spec_toMutWrite, spec_makeAsciiLower, spec_makeAsciiUpper,
      spec_mutate, spec_mutateLeak, spec_toVec, spec_drop]
    exact sOnSlot_frame h k fun v => key _ _ _ (List.mem_cons_self ..)
  | pop h =>
    simp only [spec_pop]
    refine sOnSlot_frame h k fun v => ?_
    split
    · rfl
    · exact key _ _ _ (List.mem_cons_self ..)
  | shrinkTo h n | shrinkToFit h | spareCapacity h =>
    simp only [spec_shrinkTo, spec_shrinkToFit, spec_spareCapacity]
    exact sOnSlot_frame h k fun _ => rfl
  | asMutWrite h i b | intoVec h | intoBorrowed h =>
    simp only [spec_asMutWrite, spec_intoVec, spec_intoBorrowed]
    refine sOnSlot_frame h k fun v => ?_
    split
    · exact key _ _ _ (List.mem_cons_self ..)
    · rfl
  | intoOwned h d =>
    simp only [spec_intoOwned]
    refine sOnSlot_frame h k fun v => ?_
    split
    · exact (key _ _ _ (List.mem_cons_of_mem _ (List.mem_cons_self ..))).trans (key _ _ _ (List.mem_cons_self ..))
    · rfl

theorem step_frame (cfg : Cfg) (s : State) (op : Op) (k : Nat) (w : Wf cfg s) (hok : OpOk s op)
    (hk : k ∉ writes op) : sget (abs (step cfg s op).1) k = sget (abs s) k := by
  have := spec_frame cfg.icap s.srcs (abs s) op (retFlag (step cfg s op).2.ret) k hk
  rw [refines cfg s op w hok] at this
  exact this

end HipVerif.Core
